import PelModel.Json
/- Python dicts as association lists: `objGet?`, `objSet` (`d[k] = v`) and `objUpdate` (`d.update(other)`); and a JSON value seen as
   such a dict: its member list `J.members`, and `Member k v j`, "`j` is an object in which `k` has the value `v`". -/
namespace Pel

theorem objGet?_append (a b : List (Text × J)) (k : Text) :
    objGet? (a ++ b) k = match objGet? a k with
      | some v => some v
      | none => objGet? b k := by
  induction a with
  | nil => rfl
  | cons p a ih =>
    obtain ⟨k', v⟩ := p
    by_cases hk : k' = k
    · simp [objGet?, hk]
    · simp [objGet?, hk, ih]

theorem objGet?_none_of_keys (a : List (Text × J)) (k : Text) (h : ∀ p ∈ a, p.1 ≠ k) : objGet? a k = none := by
  induction a with
  | nil => rfl
  | cons p a ih =>
    obtain ⟨k', v⟩ := p
    have hk : k' ≠ k := h (k', v) (by simp)
    simp only [objGet?, hk, if_false]
    exact ih (fun q hq => h q (by simp [hq]))

theorem objGet?_append_none (a b : List (Text × J)) (k : Text) (h : ∀ p ∈ a, p.1 ≠ k) :
    objGet? (a ++ b) k = objGet? b k := by
  rw [objGet?_append, objGet?_none_of_keys a k h]

theorem objGet?_append_some {k : Text} {v : J} {l : List (Text × J)} (h : objGet? l k = some v) (x : List (Text × J)) :
    objGet? (l ++ x) k = some v := by
  rw [objGet?_append, h]

theorem fresh_ite {c : Prop} [Decidable c] {B : List (Text × J)} {k : Text} (h : ∀ p ∈ B, p.1 ≠ k) :
    ∀ p ∈ (if c then B else []), p.1 ≠ k := by
  split
  · exact h
  · simp

/-- the member list of an object; empty for any other value -/
def J.members : J → List (Text × J)
  | .obj l => l
  | _ => []

def Member (k : Text) (v : J) (j : J) : Prop := ∃ l, j = .obj l ∧ objGet? l k = some v

theorem member_of_objGet? {l : List (Text × J)} {k : Text} {v : J} (h : objGet? l k = some v) : Member k v (.obj l) := ⟨l, rfl, h⟩

theorem member_of_key {l : List (Text × J)} {k : Text} (h : k ∈ l.map (·.1)) : ∃ v, Member k v (.obj l) := by
  suffices ∃ v, objGet? l k = some v from this.imp fun _ => member_of_objGet?
  induction l with
  | nil => cases h
  | cons p l ih =>
    by_cases hk : p.1 = k
    · exact ⟨p.2, by simp [objGet?, hk]⟩
    · simp only [List.map_cons, List.mem_cons] at h
      simpa [objGet?, hk] using ih (h.resolve_left (Ne.symm hk))

theorem objSet_fresh (acc : List (Text × J)) (k : Text) (v : J) (h : ∀ p ∈ acc, p.1 ≠ k) :
    objSet acc k v = acc ++ [(k, v)] := by
  induction acc with
  | nil => rfl
  | cons p r ih =>
    obtain ⟨k', v'⟩ := p
    have h1 : k' ≠ k := h (k', v') (List.mem_cons_self ..)
    simp only [objSet, if_neg h1, List.cons_append]
    rw [ih (fun p hp => h p (List.mem_cons_of_mem _ hp))]

theorem objSet_two (a b : Text) (x y : J) (h : a ≠ b) : objSet (objSet [] a x) b y = [(a, x), (b, y)] := by
  simp [objSet, h]

theorem objSet_head_ne (k0 : Text) (v0 : J) (r : List (Text × J)) (k : Text) (v : J) (h : k0 ≠ k) :
    objSet ((k0, v0) :: r) k v = (k0, v0) :: objSet r k v := by
  rw [objSet, if_neg h]

theorem mem_objSet (l : List (Text × J)) (k : Text) (v : J) : ∀ p ∈ objSet l k v, p.1 = k ∨ p ∈ l := by
  induction l with
  | nil => intro p hp; simp [objSet] at hp; exact .inl (by rw [hp])
  | cons a r ih =>
    intro p hp
    rw [objSet] at hp
    split at hp <;> rcases List.mem_cons.1 hp with rfl | h
    · exact .inl rfl
    · exact .inr (List.mem_cons_of_mem _ h)
    · exact .inr List.mem_cons_self
    · exact (ih p h).imp_right (List.mem_cons_of_mem _)

theorem objGet?_objSet_same (d : List (Text × J)) (k : Text) (v : J) : objGet? (objSet d k v) k = some v := by
  induction d with
  | nil => simp [objSet, objGet?]
  | cons p r ih =>
    obtain ⟨k', v'⟩ := p
    by_cases h : k' = k
    · simp [objSet, h, objGet?]
    · simp [objSet, h, objGet?, ih]

theorem objGet?_objSet_other (d : List (Text × J)) (k k2 : Text) (v : J) (hne : k ≠ k2) :
    objGet? (objSet d k v) k2 = objGet? d k2 := by
  induction d with
  | nil => simp [objSet, objGet?, hne]
  | cons p r ih =>
    obtain ⟨k', v'⟩ := p
    by_cases h : k' = k
    · subst h
      simp [objSet, objGet?, hne]
    · simp only [objSet, if_neg h, objGet?, ih]

theorem objGet?_objSet_isSome (l : List (Text × J)) (k' : Text) (v : J) (k : Text) (h : (objGet? l k).isSome = true) :
    (objGet? (objSet l k' v) k).isSome = true := by
  by_cases hk : k' = k
  · rw [hk, objGet?_objSet_same]; rfl
  · rw [objGet?_objSet_other l k' k v hk]; exact h

theorem objUpdate_nil (d : List (Text × J)) : objUpdate d [] = d := rfl

theorem objUpdate_cons (d : List (Text × J)) (m : Text × J) (ms : List (Text × J)) :
    objUpdate d (m :: ms) = objUpdate (objSet d m.1 m.2) ms := rfl

theorem objUpdate_fresh (ms : List (Text × J)) : ∀ (d : List (Text × J)), ((d ++ ms).map (·.1)).Nodup →
    objUpdate d ms = d ++ ms := by
  induction ms with
  | nil => intro d _; rw [objUpdate_nil, List.append_nil]
  | cons m ms ih =>
    intro d h
    have hf : ∀ p ∈ d, p.1 ≠ m.1 := by
      intro p hp he
      rw [List.map_append, List.map_cons] at h
      exact (List.nodup_append.1 h).2.2 _ (List.mem_map_of_mem hp) _ (List.mem_cons_self ..) he
    rw [objUpdate_cons, objSet_fresh d m.1 m.2 hf, ih _ (by simpa using h), List.append_assoc, List.singleton_append]

theorem objUpdate_head (k0 : Text) (v0 : J) (descs : List (Text × J)) (h : ∀ p ∈ descs, p.1 ≠ k0) :
    ∀ r, ∃ r', objUpdate ((k0, v0) :: r) descs = (k0, v0) :: r' := by
  induction descs with
  | nil => intro r; exact ⟨r, rfl⟩
  | cons a t ih =>
    intro r
    rw [objUpdate_cons, objSet_head_ne k0 v0 r a.1 a.2 (fun e => h a (by simp) e.symm)]
    exact ih (fun p hp => h p (by simp [hp])) _

theorem objGet?_objUpdate_notin (ms : List (Text × J)) : ∀ (d : List (Text × J)) (k : Text),
    (∀ p ∈ ms, p.1 ≠ k) → objGet? (objUpdate d ms) k = objGet? d k := by
  induction ms with
  | nil => intro d k _; rfl
  | cons m ms ih =>
    intro d k h
    rw [objUpdate_cons, ih _ k (fun p hp => h p (List.mem_cons_of_mem _ hp))]
    exact objGet?_objSet_other d m.1 k m.2 (h m (List.mem_cons_self ..))

theorem objGet?_objUpdate_mem (ms : List (Text × J)) : ∀ (d : List (Text × J)), (ms.map (·.1)).Nodup →
    ∀ p ∈ ms, objGet? (objUpdate d ms) p.1 = some p.2 := by
  induction ms with
  | nil => intro d _ p hp; cases hp
  | cons m ms ih =>
    intro d hnd p hp
    rw [List.map_cons, List.nodup_cons] at hnd
    rw [objUpdate_cons]
    rcases List.mem_cons.mp hp with rfl | hp'
    · rw [objGet?_objUpdate_notin ms _ p.1 ?_]
      · exact objGet?_objSet_same d p.1 p.2
      · intro q hq hqk
        exact hnd.1 (List.mem_map.mpr ⟨q, hq, hqk⟩)
    · exact ih _ hnd.2 p hp'

theorem objGet?_objUpdate_isSome (l o : List (Text × J)) (k : Text) (h : (objGet? l k).isSome = true) :
    (objGet? (objUpdate l o) k).isSome = true := by
  induction o generalizing l with
  | nil => exact h
  | cons p o ih => rw [objUpdate_cons]; exact ih _ (objGet?_objSet_isSome l p.1 p.2 k h)

end Pel
