import PelProofs.FramesDefs
/- Framing lemmas for the section header and the straight-line sections (PH, UH, EH, MT, LP, Default, UD, ED). -/
namespace Pel

theorem isAscii_nil : isAscii [] := fun _ h => by simp at h

theorem isAscii_append {a b : Bytes} (ha : isAscii a) (hb : isAscii b) : isAscii (a ++ b) := by
  intro x hx
  rcases List.mem_append.1 hx with h | h
  · exact ha x h
  · exact hb x h

theorem stripNul_nil : stripNul [] = [] := by decide

theorem Frames.getText (b : Bytes) (hb : isAscii b) (hn : 0 < b.length) : Frames (getText b.length) b b := by
  unfold Pel.getText
  refine Frames.cast (Frames.bind (Frames.getMem b hn) ?_) (List.append_nil b) rfl
  rw [utf8Decode_lt128 b hb]
  exact Frames.pure b

theorem Frames.getTextN (n : Nat) (b : Bytes) (hb : isAscii b) (hl : b.length = n) (hn : 0 < n) : Frames (Pel.getText n) b b := by
  subst hl; exact Frames.getText b hb hn

theorem Frames.getText1 (c : Nat) (hc : c < 128) : Frames (Pel.getText 1) [c] [c] :=
  Frames.getText [c] (by intro x hx; simp at hx; omega) (by simp)

theorem Frames.getTextOpt (b : Bytes) (hb : isAscii b) :
    Frames (if b.length ≠ 0 then Pel.getText b.length else Pure.pure []) b b :=
  Frames.opt (fun h => Frames.getText b hb (by omega))
    (fun h => ⟨List.eq_nil_of_length_eq_zero (by omega), (List.eq_nil_of_length_eq_zero (by omega)).symm⟩)

theorem Frames.getTimestamp (b : Bytes) (hlen : b.length = 8) : Frames Pel.getTimestamp b (bcdTime b) := by
  match b, hlen with
  | [a0, a1, a2, a3, a4, a5, a6, a7], _ =>
    unfold Pel.getTimestamp
    refine Frames.cast
      (Frames.bind (Frames.getMemN 2 [a0, a1] rfl (by omega)) <|
       Frames.bind (Frames.getMemN 1 [a2] rfl (by omega)) <|
       Frames.bind (Frames.getMemN 1 [a3] rfl (by omega)) <|
       Frames.bind (Frames.getMemN 1 [a4] rfl (by omega)) <|
       Frames.bind (Frames.getMemN 1 [a5] rfl (by omega)) <|
       Frames.bind (Frames.getMemN 1 [a6] rfl (by omega)) <|
       Frames.bind (Frames.getMemN 1 [a7] rfl (by omega)) <|
       Frames.pure _) ?_ ?_
    · rfl
    · rfl

theorem frames_parseHeader (id bodyLen : Nat) (h : AHdr) (hw : h.WF) (hid : id < 65536) (hl : 8 + bodyLen < 65536) :
    Frames parseHeader (encHdr id bodyLen h) (mkSecHdr id (8 + bodyLen) h) := by
  obtain ⟨hv, hs, hc⟩ := hw
  unfold parseHeader
  refine Frames.cast
    (Frames.bind (Frames.getInt 2 id (by omega) (by omega)) <|
     Frames.bind (Frames.getInt 2 (8 + bodyLen) (by omega) (by omega)) <|
     Frames.bind (Frames.getInt 1 h.ver (by omega) (by omega)) <|
     Frames.bind (Frames.getInt 1 h.sub (by omega) (by omega)) <|
     Frames.bind (Frames.getInt 2 h.comp (by omega) (by omega)) <|
     Frames.pure _) ?_ ?_
  · simp [encHdr]
  · rfl

theorem frames_PH (T : Tables) (p : APH) (hp : p.WF) (count : Nat) (hc : count < 256) (len : Nat) :
    Frames (decodePH T (mkSecHdr sidPH len p.hdr)) (p.encBody count)
      (renderPH T p, { creator := [p.creator], sectionCount := count, obmcLogID := p.obmc, plid := p.plid,
                       eid := p.eid, commitTime := bcdTime p.commit }) := by
  obtain ⟨hh, hc1, hc2, hb1, hb2, hcr, hr0, hr1, hob, hcv, hpl, hei⟩ := hp
  unfold decodePH
  refine Frames.cast
    (Frames.bind (Frames.getTimestamp p.create hc1) <|
     Frames.bind (Frames.getTimestamp p.commit hc2) <|
     Frames.bind (Frames.getText1 p.creator hcr) <|
     Frames.bind (Frames.getInt1 p.resv0 hr0) <|
     Frames.bind (Frames.getInt1 p.resv1 hr1) <|
     Frames.bind (Frames.getInt 1 count (by omega) (by omega)) <|
     Frames.bind (Frames.getInt 4 p.obmc (by omega) (by omega)) <|
     Frames.bind (Frames.getInt 8 p.cver (by omega) (by omega)) <|
     Frames.bind (Frames.getInt 4 p.plid (by omega) (by omega)) <|
     Frames.bind (Frames.getInt 4 p.eid (by omega) (by omega)) <|
     Frames.pure _) ?_ ?_
  · simp [APH.encBody]
  · rfl

theorem frames_UH (T : Tables) (u : AUH) (hu : u.WF) (creator : Text) (len : Nat) :
    Frames (decodeUH T (mkSecHdr sidUH len u.hdr) creator) u.encBody
      (renderUH T u creator, { severity := u.sev, actionFlags := u.af }) := by
  obtain ⟨hh, h1, h2, h3, h4, h5, h6, h7, h8, h9⟩ := hu
  unfold decodeUH
  refine Frames.cast
    (Frames.bind (Frames.getInt 1 u.subsys (by omega) (by omega)) <|
     Frames.bind (Frames.getInt 1 u.scope (by omega) (by omega)) <|
     Frames.bind (Frames.getInt 1 u.sev (by omega) (by omega)) <|
     Frames.bind (Frames.getInt 1 u.etype (by omega) (by omega)) <|
     Frames.bind (Frames.getInt 4 u.resv (by omega) (by omega)) <|
     Frames.bind (Frames.getInt 1 u.pd (by omega) (by omega)) <|
     Frames.bind (Frames.getInt 1 u.pv (by omega) (by omega)) <|
     Frames.bind (Frames.getInt 2 u.af (by omega) (by omega)) <|
     Frames.bind (Frames.getInt 4 u.states (by omega) (by omega)) <|
     Frames.pure _) ?_ ?_
  · simp [AUH.encBody]
  · simp only [and_255, and_ff00_shift]; rfl

theorem frames_EH (T : Tables) (h : AHdr) (creator : Text) (e : AEH) (he : e.WF) (id len : Nat) :
    Frames (decodeEH T (mkSecHdr id len h) creator) e.encBody (renderEH T h creator e) := by
  obtain ⟨l1, l2, l3, l4, hr, l5, b5, l6, b6, hs, a1, a2, a3, a4, a5⟩ := he
  match e6 : e.resv3, l6 with
  | [x0, x1, x2], _ =>
    rw [e6] at b6
    unfold decodeEH
    refine Frames.cast
      (Frames.bind (Frames.getTextN 8 e.mtm a1 l1 (by omega)) <|
       Frames.bind (Frames.getTextN 12 e.sn a2 l2 (by omega)) <|
       Frames.bind (Frames.getTextN 16 e.fw a3 l3 (by omega)) <|
       Frames.bind (Frames.getTextN 16 e.subfw a4 l4 (by omega)) <|
       Frames.bind (Frames.getInt 4 e.resv (by omega) (by omega)) <|
       Frames.bind (Frames.getTimestamp e.refTime l5) <|
       Frames.bind (Frames.getInt1 x0 (b6 x0 (by simp))) <|
       Frames.bind (Frames.getInt1 x1 (b6 x1 (by simp))) <|
       Frames.bind (Frames.getInt1 x2 (b6 x2 (by simp))) <|
       Frames.bind (Frames.getInt1 e.sym.length hs) <|
       Frames.iteBind (Frames.getTextOpt e.sym a5) <|
       Frames.pure _) ?_ ?_
    · simp [AEH.encBody, e6]
    · rfl

theorem frames_MT (T : Tables) (h : AHdr) (creator : Text) (m : AMT) (hm : m.WF) (id len : Nat) :
    Frames (decodeMT T (mkSecHdr id len h) creator) m.encBody (renderMT T h creator m) := by
  obtain ⟨l1, l2, a1, a2⟩ := hm
  unfold decodeMT
  refine Frames.cast
    (Frames.bind (Frames.getTextN 8 m.mtm a1 l1 (by omega)) <|
     Frames.bind (Frames.getTextN 12 m.sn a2 l2 (by omega)) <|
     Frames.pure _) ?_ ?_
  · simp [AMT.encBody]
  · rfl

theorem Frames.getNameOpt (b : Bytes) (hb : isAscii b) :
    Frames (if b.length ≠ 0 then (Pel.getText b.length >>= fun t => Pure.pure (rstripChar 0 t)) else Pure.pure []) b
      (rstripChar 0 b) :=
  Frames.opt (fun h => (Frames.getText b hb (by omega)).map _)
    (fun h => by obtain rfl := List.eq_nil_of_length_eq_zero (by omega : b.length = 0); exact ⟨rfl, rfl⟩)

theorem Frames.getPad (n pad : Nat) (hp : pad < 65536) :
    Frames (if n % 2 ≠ 0 then Pel.getInt 2 else Pure.pure 0) (if n % 2 = 1 then toBE 2 pad else [])
      (if n % 2 = 1 then pad else 0) :=
  Frames.opt (fun h => by rw [if_pos (by omega), if_pos (by omega)]; exact Frames.getInt 2 pad (by omega) (by omega))
    (fun h => by rw [if_neg (by omega), if_neg (by omega)]; exact ⟨rfl, rfl⟩)

theorem frames_LP (T : Tables) (h : AHdr) (creator : Text) (l : ALP) (hl : l.WF) (id len : Nat) :
    Frames (decodeLP T (mkSecHdr id len h) creator) l.encBody (renderLP T h creator l) := by
  obtain ⟨hp, hlg, hnl, hna, htl, hts, hpad⟩ := hl
  unfold decodeLP
  refine Frames.cast
    (Frames.bind (Frames.getInt 2 l.primary (by omega) (by omega)) <|
     Frames.bind (Frames.getInt1 l.name.length hnl) <|
     Frames.bind (Frames.getInt1 l.targets.length htl) <|
     Frames.bind (Frames.getInt 4 l.logId (by omega) (by omega)) <|
     Frames.iteBind (Frames.getNameOpt l.name hna) <|
     Frames.bind (Frames.getInts 2 (by omega) l.targets (fun t ht => by have := hts t ht; omega)) <|
     Frames.iteBind (Frames.getPad l.targets.length l.pad hpad) <|
     Frames.pure _) ?_ ?_
  · simp [ALP.encBody]
  · have e : (l.targets.map fun t => jstr (ox (fmtHex 4 t))) = (l.targets.map fun t => jstr (ox (hexFix 4 t))) :=
      List.map_congr_left (fun t ht => by rw [fmtHex_eq_hexFix 4 t (by have := hts t ht; omega) (by omega)])
    simp (disch := omega) only [fmtHex_eq_hexFix, e, renderLP, hdrMembers, mkSecHdr]
    cases l.targets <;> simp

theorem frames_Default (h : AHdr) (id : Nat) (payload : Bytes) (hp : 1 ≤ payload.length) :
    Frames (decodeDefault (mkSecHdr id (8 + payload.length) h)) payload (renderDefault h payload) := by
  unfold decodeDefault
  simp only [mkSecHdr, Nat.add_sub_cancel_left]
  exact (Frames.getMem payload hp).map _

theorem udToJson_id (T : Tables) (id len : Nat) (h : AHdr) (creator : Text) (v : UdValue) :
    udToJson T (mkSecHdr id len h) creator v =
      udToJson T { id := 0, len := len, ver := h.ver, sub := h.sub, comp := h.comp } creator v := rfl

theorem frames_UD (env : Env) (h : AHdr) (creator : Text) (payload : Bytes) (hp : 1 ≤ payload.length) (j : J)
    (hr : renderUD env h (8 + payload.length) creator payload = .ok j) :
    Frames (decodeUD env.T env.ud env.allowPlugins (mkSecHdr sidUD (8 + payload.length) h) creator) payload j := by
  unfold renderUD at hr
  unfold decodeUD
  rw [show (mkSecHdr sidUD (8 + payload.length) h).len - 8 = payload.length by simp [mkSecHdr]]
  refine Frames.cast (Frames.bind (Frames.getMem payload hp) ?_) (List.append_nil _) rfl
  rw [udToJson_id]
  simp only [mkSecHdr, hr]
  exact Frames.pure j

theorem frames_ED (env : Env) (h : AHdr) (c r1 r2 : Nat) (payload : Bytes) (hc : c < 256) (h1 : r1 < 256) (h2 : r2 < 65536)
    (hp : 1 ≤ payload.length) (j : J) (hr : renderUD env h (12 + payload.length) [c] payload = .ok j) :
    Frames (decodeED env.T env.ud env.allowPlugins (mkSecHdr sidED (12 + payload.length) h))
      ([c, r1] ++ toBE 2 r2 ++ payload) j := by
  unfold renderUD at hr
  unfold decodeED
  rw [show (mkSecHdr sidED (12 + payload.length) h).len - 4 - 8 = payload.length by simp [mkSecHdr]; omega]
  refine Frames.cast
    (Frames.bind (Frames.getInt1 c hc) <|
     Frames.bind (Frames.getInt1 r1 h1) <|
     Frames.bind (Frames.getInt 2 r2 (by omega) (by omega)) <|
     Frames.bind (b := []) (Frames.getMem payload hp) ?_) (by simp) rfl
  dsimp only
  rw [udToJson_id]
  simp only [mkSecHdr, hr]
  exact Frames.pure j

end Pel
