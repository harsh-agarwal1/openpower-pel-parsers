import PelModel.Sections
import PelProofs.Basic
/-
  Helper lemmas and the proof script of the source tie of the header-type sections (PelProps/TieC02.lean).
  The tie theorems say `generated definition = model function`; on the unchanged tree every one of them is `rfl`, but for
  `displayCompID`, where the source shifts and masks and the model divides.  The fall-backs below make the proofs survive
  HARMLESS rewrites of the source (a condition written the other way round, `a & b` for `b & a`, a decode split into two
  statements, `//`/`%` for `>>`/`&` …): both sides are brought to one normal form of reader programs (right-nested binds,
  the continuation pushed into every `if`, bit operations as division and remainder) and compared again.
-/
namespace Pel.TieAux

theorem and_15 (x : Nat) : x &&& 15 = x % 16 := Nat.and_two_pow_sub_one_eq_mod x 4
theorem and_255' (x : Nat) : 255 &&& x = x % 256 := by rw [Nat.and_comm]; exact and_255 x
theorem and_65535' (x : Nat) : 65535 &&& x = x % 65536 := by rw [Nat.and_comm]; exact and_65535 x

/-- a byte taken out of a word: mask then shift = shift then mask -/
theorem and_mask_div (x k : Nat) : (x &&& (255 <<< k)) / 2 ^ k = x / 2 ^ k % 256 := by
  rw [← Nat.shiftRight_eq_div_pow, ← Nat.shiftRight_eq_div_pow, Nat.shiftRight_and_distrib, Nat.shiftLeft_shiftRight, and_255]
theorem and_FF00_div (x : Nat) : (x &&& 65280) / 256 = x / 256 % 256 := and_mask_div x 8
theorem and_FF0000_div (x : Nat) : (x &&& 16711680) / 65536 = x / 65536 % 256 := and_mask_div x 16
theorem and_FF000000_div (x : Nat) : (x &&& 4278190080) / 16777216 = x / 16777216 % 256 := and_mask_div x 24

theorem ite_bind_distrib {m : Type → Type} [Monad m] {α β : Type} (c : Prop) [Decidable c] (a b : m α) (k : α → m β) :
    (if c then a else b) >>= k = if c then a >>= k else b >>= k :=
  apply_ite (· >>= k) c a b

theorem ne_zero_iff_pos (n : Nat) : (0 < n) = ¬ (n = 0) := by
  apply propext; omega
theorem one_le_iff (n : Nat) : (1 ≤ n) = ¬ (n = 0) := by
  apply propext; omega
theorem ge_one_iff (n : Nat) : (n ≥ 1) = ¬ (n = 0) := by
  apply propext; omega
theorem zero_eq_iff (n : Nat) : (0 = n) = (n = 0) := by
  apply propext; omega

end Pel.TieAux

open Pel Pel.TieAux in
/-- normal form of a reader program of the header-type sections: right-nested binds, the continuation pushed into every `if`, tests
    on numbers as `n = 0` or its negation, bit operations as division and remainder, the operands of `&&&` / `|||` / `+` / `∧` / `∨` in
    one order -/
macro "rd_norm" : tactic => `(tactic|
  simp only [getText, ox, stripNul, hexdumpJ, hexdump16, bind_assoc, pure_bind, ite_bind_distrib,
    ne_eq, ite_not, Classical.not_not, ne_zero_iff_pos, one_le_iff, ge_one_iff, zero_eq_iff,
    Nat.mod_two_ne_zero, Nat.mod_two_ne_one,
    Nat.shiftRight_and_distrib, Nat.shiftRight_eq_div_pow, and_255, and_65535, and_15, and_255', and_65535', and_FF00_div, and_FF0000_div, and_FF000000_div,
    Nat.reducePow, Nat.reduceShiftRight, Nat.reduceMod, Nat.reduceDiv, Nat.reduceAnd, List.cons_append, List.nil_append,
    Nat.and_comm, Nat.or_comm, Nat.add_comm, and_comm, or_comm])

/-- `tie_rd f`: the goal `generated = f`.  Both sides are normalised and compared syntactically (cheap, and a failing
    comparison stays cheap); the full definitional comparison comes last because a FAILING `rfl` on two big programs can
    run into the heartbeat limit, which no `first` recovers from. -/
macro "tie_rd " f:ident : tactic => `(tactic| first
  | (unfold $f; rd_norm <;> with_reducible rfl)
  | (unfold $f; (try rd_norm); rfl)
  | rfl)
