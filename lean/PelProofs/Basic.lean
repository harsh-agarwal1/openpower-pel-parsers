import PelModel.Basic
import PelModel.Utf8
/- Lemmas about the basic vocabulary, in this order: big-endian integers; hex digits and fixed-width hex words, proved once for
   both cases over the digit function (`hexFixWith`), with their case folding; the number of digits, proved once for both bases
   (`lenAuxWith`); `fmtHex`; decimal numbers.  For hex words and for decimal numbers the line of results ends in: the displayed
   digits determine the value (`parseHexText_hexFix`, `parseHexText_fmtHex`, `decVal_natDec` and the `_injective` corollaries).
   Then lengths of padded text, `joinWith`, UTF-8 decoding of ASCII, text stripped on the right, two facts about lists of numbers,
   bit masks, string literals as code points, and `>>=` of a state-and-exception monad pointwise. -/
namespace Pel

@[simp] theorem toBE_length (n v : Nat) : (toBE n v).length = n := by
  induction n generalizing v with
  | zero => simp [toBE]
  | succ n ih => simp [toBE, ih]

theorem fromBE_snoc (a : Bytes) (x : Nat) : fromBE (a ++ [x]) = fromBE a * 256 + x := by
  simp [fromBE, List.foldl_append]

theorem fromBE_toBE (n v : Nat) (h : v < 256 ^ n) : fromBE (toBE n v) = v := by
  induction n generalizing v with
  | zero => simp [toBE, fromBE] at *; omega
  | succ n ih =>
    simp only [toBE, fromBE_snoc]
    have h2 : v / 256 < 256 ^ n := by
      rw [Nat.pow_succ] at h
      exact Nat.div_lt_of_lt_mul (by omega)
    rw [ih _ h2]; omega

theorem toBE_allBytes (n v : Nat) : ∀ x ∈ toBE n v, x < 256 := by
  induction n generalizing v with
  | zero => simp [toBE]
  | succ n ih =>
    intro x hx
    simp only [toBE, List.mem_append, List.mem_singleton] at hx
    rcases hx with hx | hx
    · exact ih _ x hx
    · omega

theorem isHexDigit_hexU (n : Nat) : isHexDigit (hexU n) = true := by
  unfold isHexDigit hexU
  split <;> simp <;> omega

theorem isHexDigit_hexL (n : Nat) : isHexDigit (hexL n) = true := by
  unfold isHexDigit hexL
  split <;> simp <;> omega

theorem hexVal_hexU (n : Nat) : hexVal (hexU n) = n % 16 := by
  unfold hexVal hexU
  split <;> split <;> (try split) <;> omega

theorem hexVal_hexL (n : Nat) : hexVal (hexL n) = n % 16 := by
  unfold hexVal hexL
  split <;> split <;> (try split) <;> omega

theorem hexU_ne_space (n : Nat) : hexU n ≠ 32 := by unfold hexU; split <;> omega

/-- `hexFix` and `hexFixL` over the digit function: what holds for either case is proved once -/
def hexFixWith (dig : Nat → Nat) : Nat → Nat → Text
  | 0, _ => []
  | n+1, v => hexFixWith dig n (v / 16) ++ [dig v]

theorem hexFix_eq_with (n v : Nat) : hexFix n v = hexFixWith hexU n v := by
  induction n generalizing v with
  | zero => rfl
  | succ n ih => rw [hexFix, hexFixWith, ih]

theorem hexFixL_eq_with (n v : Nat) : hexFixL n v = hexFixWith hexL n v := by
  induction n generalizing v with
  | zero => rfl
  | succ n ih => rw [hexFixL, hexFixWith, ih]

theorem hexFixWith_length (dig : Nat → Nat) (n v : Nat) : (hexFixWith dig n v).length = n := by
  induction n generalizing v with
  | zero => rfl
  | succ n ih => simp [hexFixWith, ih]

theorem map_hexFixWith (f dig : Nat → Nat) (n v : Nat) :
    (hexFixWith dig n v).map f = hexFixWith (fun x => f (dig x)) n v := by
  induction n generalizing v with
  | zero => rfl
  | succ n ih => simp only [hexFixWith, List.map_append, ih, List.map_cons, List.map_nil]

theorem hexFixWith_add (dig : Nat → Nat) (m n v : Nat) :
    hexFixWith dig (m + n) v = hexFixWith dig m (v / 16 ^ n) ++ hexFixWith dig n v := by
  induction n generalizing v with
  | zero => simp [hexFixWith]
  | succ n ih =>
    show hexFixWith dig ((m + n) + 1) v = _
    simp only [hexFixWith]
    rw [ih, List.append_assoc, Nat.div_div_eq_div_mul, Nat.pow_succ, Nat.mul_comm]

theorem hexFixWith_take (dig : Nat → Nat) (m n v : Nat) :
    (hexFixWith dig (m + n) v).take m = hexFixWith dig m (v / 16 ^ n) := by
  rw [hexFixWith_add]; exact List.take_left' (hexFixWith_length ..)

theorem hexFixWith_drop (dig : Nat → Nat) (m n v : Nat) : (hexFixWith dig (m + n) v).drop m = hexFixWith dig n v := by
  rw [hexFixWith_add]; exact List.drop_left' (hexFixWith_length ..)

theorem forall_mem_hexFixWith {P : Nat → Prop} (dig : Nat → Nat) (h : ∀ x, P (dig x)) (n v : Nat) :
    ∀ c ∈ hexFixWith dig n v, P c := by
  induction n generalizing v with
  | zero => exact fun _ hc => nomatch hc
  | succ n ih =>
    simp only [hexFixWith, List.forall_mem_append, List.forall_mem_singleton]
    exact ⟨ih _, h v⟩

@[simp] theorem hexFix_length (n v : Nat) : (hexFix n v).length = n := by
  rw [hexFix_eq_with, hexFixWith_length]

@[simp] theorem hexFixL_length (n v : Nat) : (hexFixL n v).length = n := by
  rw [hexFixL_eq_with, hexFixWith_length]

theorem hexFix_all_hex (n v : Nat) : ∀ c ∈ hexFix n v, isHexDigit c = true := by
  rw [hexFix_eq_with]; exact forall_mem_hexFixWith hexU isHexDigit_hexU n v

theorem parseHexText_snoc (t : Text) (c : Nat) : parseHexText (t ++ [c]) = parseHexText t * 16 + hexVal c := by
  simp [parseHexText, List.foldl_append]

theorem parseHexText_hexFixWith (dig : Nat → Nat) (hdig : ∀ x, hexVal (dig x) = x % 16) (n v : Nat) :
    parseHexText (hexFixWith dig n v) = v % 16 ^ n := by
  induction n generalizing v with
  | zero => simp [hexFixWith, parseHexText, Nat.mod_one]
  | succ n ih =>
    simp only [hexFixWith, parseHexText_snoc, hdig, ih]
    rw [Nat.pow_succ, Nat.mul_comm (16 ^ n) 16, Nat.mod_mul]
    omega

theorem parseHexText_hexFix (n v : Nat) (h : v < 16 ^ n) : parseHexText (hexFix n v) = v := by
  rw [hexFix_eq_with, parseHexText_hexFixWith hexU hexVal_hexU, Nat.mod_eq_of_lt h]

theorem parseHexText_hexFixL (n v : Nat) (h : v < 16 ^ n) : parseHexText (hexFixL n v) = v := by
  rw [hexFixL_eq_with, parseHexText_hexFixWith hexL hexVal_hexL, Nat.mod_eq_of_lt h]

theorem hexVal_lt (c : Nat) (h : isHexDigit c = true) : hexVal c < 16 := by
  simp only [isHexDigit, Bool.or_eq_true, Bool.and_eq_true, decide_eq_true_eq] at h
  unfold hexVal
  split
  · omega
  · split <;> omega

theorem parseHex_foldl_lt (t : Text) (h : ∀ c ∈ t, isHexDigit c = true) (a : Nat) :
    t.foldl (fun a c => a * 16 + hexVal c) a < (a + 1) * 16 ^ t.length := by
  induction t generalizing a with
  | nil => simp
  | cons c t ih =>
    have hc := hexVal_lt c (h c (by simp))
    rw [List.foldl_cons, List.length_cons, Nat.pow_succ, Nat.mul_comm (16 ^ _) 16, ← Nat.mul_assoc]
    exact Nat.lt_of_lt_of_le (ih (fun x hx => h x (by simp [hx])) _) (Nat.mul_le_mul_right _ (by omega))

theorem parseHexText_lt (t : Text) (h : ∀ c ∈ t, isHexDigit c = true) : parseHexText t < 16 ^ t.length := by
  simpa [parseHexText] using parseHex_foldl_lt t h 0

theorem hexFix_injective (w v v' : Nat) (hv : v < 16 ^ w) (hv' : v' < 16 ^ w) (h : hexFix w v = hexFix w v') : v = v' := by
  rw [← parseHexText_hexFix w v hv, h, parseHexText_hexFix w v' hv']

theorem toUpper_hexL (n : Nat) : toUpperAscii (hexL n) = hexU n := by
  unfold toUpperAscii hexL hexU; split <;> split <;> omega
theorem toUpper_hexU (n : Nat) : toUpperAscii (hexU n) = hexU n := by
  unfold toUpperAscii hexU; split <;> split <;> omega
theorem toLower_hexU (n : Nat) : toLowerAscii (hexU n) = hexL n := by
  unfold toLowerAscii hexL hexU; split <;> split <;> omega
theorem toLower_hexL (n : Nat) : toLowerAscii (hexL n) = hexL n := by
  unfold toLowerAscii hexL; split <;> split <;> omega

theorem toLower_toUpper (c : Nat) : toLowerAscii (toUpperAscii c) = toLowerAscii c := by
  unfold toLowerAscii toUpperAscii; split <;> split <;> (try split) <;> omega
theorem toLower_toLower (c : Nat) : toLowerAscii (toLowerAscii c) = toLowerAscii c := by
  unfold toLowerAscii; split <;> (try split) <;> omega
theorem map_lower_idem (t : Text) : (t.map toLowerAscii).map toLowerAscii = t.map toLowerAscii := by
  rw [List.map_map]
  exact List.map_congr_left fun a _ => toLower_toLower a

theorem map_upper_hexFix (n v : Nat) : (hexFix n v).map toUpperAscii = hexFix n v := by
  rw [hexFix_eq_with, map_hexFixWith]; simp only [toUpper_hexU]
theorem map_upper_hexFixL (n v : Nat) : (hexFixL n v).map toUpperAscii = hexFix n v := by
  rw [hexFix_eq_with, hexFixL_eq_with, map_hexFixWith]; simp only [toUpper_hexL]
theorem map_lower_hexFix (n v : Nat) : (hexFix n v).map toLowerAscii = hexFixL n v := by
  rw [hexFix_eq_with, hexFixL_eq_with, map_hexFixWith]; simp only [toLower_hexU]
theorem map_lower_hexFixL (n v : Nat) : (hexFixL n v).map toLowerAscii = hexFixL n v := by
  rw [hexFixL_eq_with, map_hexFixWith]; simp only [toLower_hexL]

/-- `hexLenAux` and `decLenAux` over the base -/
def lenAuxWith (b : Nat) : Nat → Nat → Nat
  | 0, _ => 1
  | f+1, v => if v < b then 1 else 1 + lenAuxWith b f (v / b)

theorem hexLenAux_eq_with (f v : Nat) : hexLenAux f v = lenAuxWith 16 f v := by
  induction f generalizing v with
  | zero => rfl
  | succ f ih => rw [hexLenAux, lenAuxWith, ih]

theorem decLenAux_eq_with (f v : Nat) : decLenAux f v = lenAuxWith 10 f v := by
  induction f generalizing v with
  | zero => rfl
  | succ f ih => rw [decLenAux, lenAuxWith, ih]

theorem lenAuxWith_le (b : Nat) (hb : 2 ≤ b) (f v w : Nat) (hf : v ≤ f) (h : v < b ^ w) (hw : 0 < w) :
    lenAuxWith b f v ≤ w := by
  induction f generalizing v w with
  | zero => exact hw
  | succ f ih =>
    unfold lenAuxWith
    split
    · exact hw
    · rename_i hvb
      match w, hw with
      | 1, _ => rw [Nat.pow_one] at h; exact absurd h hvb
      | w+2, _ =>
        have hlt : v / b < v := Nat.div_lt_self (by omega) (by omega)
        have h2 : v / b < b ^ (w+1) := (Nat.div_lt_iff_lt_mul (by omega)).2 h
        have := ih (v / b) (w+1) (by omega) h2 (by omega)
        omega

theorem lt_pow_lenAuxWith (b : Nat) (hb : 2 ≤ b) (f v : Nat) (hf : v ≤ f) : v < b ^ lenAuxWith b f v := by
  induction f generalizing v with
  | zero => exact Nat.lt_of_le_of_lt hf (Nat.pow_pos (by omega))
  | succ f ih =>
    unfold lenAuxWith
    split
    · rwa [Nat.pow_one]
    · have hlt : v / b < v := Nat.div_lt_self (by omega) (by omega)
      rw [Nat.add_comm, Nat.pow_succ]
      exact (Nat.div_lt_iff_lt_mul (by omega)).1 (ih (v / b) (by omega))

theorem hexLen_le (v w : Nat) (h : v < 16 ^ w) (hw : 0 < w) : hexLen v ≤ w := by
  rw [hexLen, hexLenAux_eq_with]; exact lenAuxWith_le 16 (by omega) v v w (Nat.le_refl _) h hw

theorem decLen_le (v w : Nat) (h : v < 10 ^ w) (hw : 0 < w) : decLen v ≤ w := by
  rw [decLen, decLenAux_eq_with]; exact lenAuxWith_le 10 (by omega) v v w (Nat.le_refl _) h hw

theorem lt_pow_hexLen (v : Nat) : v < 16 ^ hexLen v := by
  rw [hexLen, hexLenAux_eq_with]; exact lt_pow_lenAuxWith 16 (by omega) v v (Nat.le_refl _)

theorem lt_pow_decLen (v : Nat) : v < 10 ^ decLen v := by
  rw [decLen, decLenAux_eq_with]; exact lt_pow_lenAuxWith 10 (by omega) v v (Nat.le_refl _)

theorem hexLen_pos (v : Nat) : 0 < hexLen v := by
  unfold hexLen
  cases v with
  | zero => simp [hexLenAux]
  | succ n => unfold hexLenAux; split <;> omega

theorem fmtHex_eq_hexFix (w v : Nat) (h : v < 16 ^ w) (hw : 0 < w) : fmtHex w v = hexFix w v := by
  unfold fmtHex
  rw [Nat.max_eq_left (hexLen_le v w h hw)]

theorem lt_pow_max (w v : Nat) : v < 16 ^ (max w (hexLen v)) :=
  Nat.lt_of_lt_of_le (lt_pow_hexLen v) (Nat.pow_le_pow_right (by omega) (Nat.le_max_right _ _))

theorem parseHexText_fmtHex (w v : Nat) : parseHexText (fmtHex w v) = v :=
  parseHexText_hexFix _ v (lt_pow_max w v)

theorem fmtHex_injective (w v v' : Nat) (h : fmtHex w v = fmtHex w v') : v = v' := by
  rw [← parseHexText_fmtHex w v, h, parseHexText_fmtHex]

@[simp] theorem decFix_length (n v : Nat) : (decFix n v).length = n := by
  induction n generalizing v with
  | zero => simp [decFix]
  | succ n ih => simp [decFix, ih]

theorem decFix_digits (n v : Nat) : ∀ c ∈ decFix n v, 48 ≤ c ∧ c ≤ 57 := by
  induction n generalizing v with
  | zero => simp [decFix]
  | succ n ih =>
    simp only [decFix, List.forall_mem_append, List.forall_mem_singleton]
    exact ⟨ih _, by omega⟩

theorem natDec_digits (v : Nat) : ∀ c ∈ natDec v, 48 ≤ c ∧ c ≤ 57 := decFix_digits _ _

theorem natDec_small (v : Nat) (h : v < 10) : natDec v = [48 + v] := by
  have e : decLen v = 1 := by
    unfold decLen
    cases v <;> simp [decLenAux, h]
  simp [natDec, e, decFix, Nat.mod_eq_of_lt h]

theorem natDec_step (v : Nat) (h : 10 ≤ v) : natDec v = natDec (v / 10) ++ [48 + v % 10] := by
  -- `decLen v` is the least `w ≥ 1` with `v < 10 ^ w` (`decLen_le`, `lt_pow_decLen`), and so is `decLen (v / 10) + 1`
  have e : decLen v = decLen (v / 10) + 1 := by
    apply Nat.le_antisymm
    · refine decLen_le v _ ?_ (by omega)
      rw [Nat.pow_succ]
      exact (Nat.div_lt_iff_lt_mul (by omega)).1 (lt_pow_decLen (v / 10))
    · have hv := lt_pow_decLen v
      match hw : decLen v with
      | 0 => rw [hw] at hv; omega
      | 1 => rw [hw] at hv; omega
      | w+2 =>
        rw [hw, Nat.pow_succ] at hv
        have := decLen_le (v / 10) (w + 1) ((Nat.div_lt_iff_lt_mul (by omega)).2 hv) (by omega)
        omega
  simp only [natDec, e, decFix]

theorem decVal_snoc (t : Text) (c : Nat) : decVal (t ++ [c]) = decVal t * 10 + (c - 48) := by
  simp [decVal, List.foldl_append]

/-- a printed natural number meets the grammar `scanNumber` checks: a digit, then digits, no leading zero; and it has the value `v` -/
theorem natDec_shape (v : Nat) : ∃ d dr, natDec v = d :: dr ∧ (48 ≤ d ∧ d ≤ 57) ∧
    (∀ c ∈ dr, 48 ≤ c ∧ c ≤ 57) ∧ (d = 48 → dr = []) ∧ decVal (d :: dr) = v := by
  induction v using Nat.strongRecOn with
  | _ v ih =>
    by_cases hv : v < 10
    · refine ⟨48 + v, [], natDec_small v hv, by omega, by simp, fun _ => rfl, ?_⟩
      simp [decVal]
    · obtain ⟨d, dr, e, hd, hdr, h0, hval⟩ := ih (v / 10) (by omega)
      refine ⟨d, dr ++ [48 + v % 10], ?_, hd, ?_, ?_, ?_⟩
      · rw [natDec_step v (by omega), e]; rfl
      · intro c hc
        simp only [List.mem_append, List.mem_singleton] at hc
        rcases hc with hc | hc
        · exact hdr c hc
        · omega
      · intro h48
        have := h0 h48
        subst this; subst h48
        simp [decVal] at hval
        omega
      · rw [← List.cons_append, decVal_snoc, hval]; omega

theorem natDec_last (v : Nat) : ∃ r c, natDec v = r ++ [c] ∧ 48 ≤ c ∧ c ≤ 57 := by
  by_cases h : v < 10
  · exact ⟨[], 48 + v, by rw [natDec_small v h]; rfl, by omega, by omega⟩
  · exact ⟨_, _, natDec_step v (by omega), by omega, by omega⟩

theorem natDec_ne_nil (v : Nat) : natDec v ≠ [] := by
  obtain ⟨d, dr, e, _⟩ := natDec_shape v
  rw [e]; exact List.cons_ne_nil _ _

theorem decVal_decFix (n v : Nat) (h : v < 10 ^ n) : decVal (decFix n v) = v := by
  induction n generalizing v with
  | zero => simp [decFix, decVal] at *; omega
  | succ n ih =>
    simp only [decFix, decVal_snoc]
    have h2 : v / 10 < 10 ^ n := by
      rw [Nat.pow_succ] at h
      exact Nat.div_lt_of_lt_mul (by omega)
    rw [ih _ h2]; omega

theorem decVal_natDec (v : Nat) : decVal (natDec v) = v := decVal_decFix _ v (lt_pow_decLen v)

theorem natDec_injective (a b : Nat) (h : natDec a = natDec b) : a = b := by
  rw [← decVal_natDec a, h, decVal_natDec]

theorem natDec_length (v : Nat) : (natDec v).length = decLen v := by
  simp [natDec]

theorem fmtDecSp_length (w v : Nat) (h : v < 10 ^ w) (hw : 0 < w) : (fmtDecSp w v).length = w := by
  have := decLen_le v w h hw
  simp only [fmtDecSp, List.length_append, List.length_replicate, natDec_length]
  omega

theorem fmtDec0_length (w v : Nat) (h : v < 10 ^ w) (hw : 0 < w) : (fmtDec0 w v).length = w := by
  have := decLen_le v w h hw
  simp only [fmtDec0, decFix_length]
  omega

@[simp] theorem ljust_length (w f : Nat) (t : Text) : (ljust w f t).length = max w t.length := by
  simp [ljust]; omega

@[simp] theorem spaces_length (n : Nat) : (spaces n).length = n := by simp [spaces]

theorem joinWith_sep (sep t : Text) (ts : List Text) : joinWith sep (t :: ts) = t ++ ts.flatMap (sep ++ ·) := by
  induction ts generalizing t with
  | nil => simp [joinWith]
  | cons u us ih => rw [joinWith.eq_3 _ _ _ (by simp), ih]; simp

theorem rstripChar_of_last_ne (c : Nat) (t : Text) (x : Nat) (h : x ≠ c) : rstripChar c (t ++ [x]) = t ++ [x] := by
  simp [rstripChar, h]

theorem rstripChar_nil (c : Nat) : rstripChar c [] = [] := by simp [rstripChar]

theorem rstripChar_idem (c : Nat) (t : Text) : rstripChar c (rstripChar c t) = rstripChar c t := by
  unfold rstripChar
  simp only [List.reverse_reverse]
  congr 1
  generalize t.reverse = r
  induction r with
  | nil => rfl
  | cons a r ih => by_cases h : (a == c) = true <;> simp [h, ih]

theorem stripSp_nospace (t : Text) (h : ∀ x ∈ t, isPySpace x = false) : stripSp t = t := by
  have drop : ∀ l : Text, (∀ x ∈ l, isPySpace x = false) → l.dropWhile isPySpace = l := by
    intro l hl
    cases l with
    | nil => rfl
    | cons x l => rw [List.dropWhile_cons_of_neg]; simp [hl x (List.mem_cons_self ..)]
  rw [stripSp, lstripSp, rstripSp, drop t h, drop t.reverse (by simpa using h), List.reverse_reverse]

theorem utf8Decode_lt128 (b : Bytes) (h : ∀ x ∈ b, x < 128) : utf8Decode b = some b := by
  induction b with
  | nil => rfl
  | cons x r ih =>
    have hx : x < 0x80 := h x (List.mem_cons_self ..)
    unfold utf8Decode
    rw [if_pos hx, ih (fun y hy => h y (List.mem_cons_of_mem _ hy))]
    rfl

/-! ### text stripped on the right -/

theorem rstrip_keep (P : Nat → Bool) (r : Text) (c : Nat) (h : P c = false) :
    ((r ++ [c]).reverse.dropWhile P).reverse = r ++ [c] := by
  simp [h]

theorem rstripNul_padded (x : Text) (pad : Nat) (hl : ∃ r c, x = r ++ [c] ∧ c ≠ 0) :
    rstripChar 0 (x ++ List.replicate pad 0) = x := by
  obtain ⟨r, c, e, hc⟩ := hl
  subst e
  unfold rstripChar
  rw [List.reverse_append, List.reverse_replicate,
    List.dropWhile_append_of_pos (by intro a ha; simp only [List.mem_replicate] at ha; simp [ha.2])]
  exact rstrip_keep _ r c (by simp [hc])

/-! ### lists of numbers -/

theorem mem_drop_range (i n k : Nat) : i ∈ (List.range n).drop k ↔ k ≤ i ∧ i < n := by
  rw [List.range_eq_range', List.drop_range', List.mem_range'_1]
  omega

theorem getD_lt (ws : List Nat) (b : Nat) (hb : 0 < b) (h : ∀ w ∈ ws, w < b) (i : Nat) : ws.getD i 0 < b := by
  rw [List.getD_eq_getElem?_getD]
  cases hi : ws[i]? with
  | none => simpa using hb
  | some v => simpa using h v (List.mem_of_getElem? hi)

/-! ### bit masks -/

theorem and_255 (x : Nat) : x &&& 255 = x % 256 := Nat.and_two_pow_sub_one_eq_mod x 8
theorem and_65535 (x : Nat) : x &&& 65535 = x % 65536 := Nat.and_two_pow_sub_one_eq_mod x 16

theorem and_two_pow' (n k : Nat) : n &&& 2^k = if n.testBit k then 2^k else 0 := by
  apply Nat.eq_of_testBit_eq
  intro i
  rw [Nat.testBit_and, Nat.testBit_two_pow]
  by_cases h : k = i
  · subst h; cases hh : n.testBit k <;> simp
  · cases hh : n.testBit k <;> simp [h]

theorem and_pow_ne_zero (n k : Nat) : (n &&& 2 ^ k != 0) = decide (n / 2 ^ k % 2 = 1) := by
  rw [and_two_pow', ← Nat.testBit_eq_decide_div_mod_eq]
  cases h : n.testBit k <;> simp

theorem and_pow_ne_zero' (n k : Nat) : (n &&& 2 ^ k ≠ 0) ↔ (n / 2 ^ k % 2 = 1) := by
  simpa using Bool.eq_iff_iff.1 (and_pow_ne_zero n k)

/-- against single-bit keys the mask test of `UserHeader` is the test of that bit -/
theorem filter_and_single_bit {α} (l : List (Nat × α)) (n : Nat) (h : ∀ p ∈ l, ∃ k, p.1 = 2 ^ k) :
    l.filter (fun p => p.1 &&& n != 0) = l.filter (fun p => n / p.1 % 2 = 1) := by
  apply List.filter_congr
  intro p hp
  obtain ⟨k, hk⟩ := h p hp
  rw [hk, Nat.and_comm, and_pow_ne_zero]

theorem and_ff00_shift (x : Nat) : (x &&& 0xFF00) >>> 8 = x / 256 % 256 := by
  rw [Nat.shiftRight_and_distrib, Nat.shiftRight_eq_div_pow]
  exact Nat.and_two_pow_sub_one_eq_mod (x / 2 ^ 8) 8

theorem and_f0 (n : Nat) (h : n < 256) : n &&& 0xf0 = n / 16 * 16 := by
  have h1 : (n &&& 0xf0) % 2^4 = 0 := by
    rw [Nat.and_mod_two_pow]; simp
  have h2 : (n &&& 0xf0) / 2^4 = n / 16 := by
    rw [Nat.and_div_two_pow]
    show n / 16 &&& 2^4 - 1 = _
    rw [Nat.and_two_pow_sub_one_eq_mod]; omega
  omega

/-! ### string literals

A literal `"…"` unifies with `String.ofList [chars]`, so `s_ofList _` turns `s "…"` into its code
points without running the UTF-8 decoder of `String.toList`, which `decide` on the literal itself would do, slowly;
`s_eq_iff` lets `simp` compare two literal keys as `String`s (`String.reduceEq`) without decoding either. -/

theorem s_ofList (l : List Char) : s (String.ofList l) = l.map Char.toNat := by
  simp [s]

theorem s_eq_iff {a b : String} : s a = s b ↔ a = b := by
  refine ⟨fun h => ?_, fun h => by rw [h]⟩
  exact String.toList_inj.1 ((List.map_inj_right fun _ _ => Char.toNat_inj.1).1 h)

theorem s_0X : s "0X" = [48, 88] := s_ofList _
theorem s_0x : s "0x" = [48, 120] := s_ofList _

theorem s_cons (c : Char) (cs : List Char) : s (String.ofList (c :: cs)) = c.toNat :: s (String.ofList cs) := by
  unfold s; rw [String.toList_ofList, String.toList_ofList]; rfl

/-- adjacent literals join into one (`String.reduceAppend` then evaluates `a ++ b`): a normal form that does not depend on
    where a format string was cut -/
theorem s_append (a b : String) : s a ++ s b = s (a ++ b) := by
  unfold s; rw [String.toList_append, List.map_append]

theorem s_append_append (a b : String) (t : Text) : s a ++ (s b ++ t) = s (a ++ b) ++ t := by
  rw [← List.append_assoc, s_append]

/-! ### state-and-exception monads, pointwise -/

theorem stateT_bind_run {σ ε α β : Type} (x : StateT σ (Except ε) α) (f : α → StateT σ (Except ε) β) (st : σ) :
    (x >>= f) st = match x st with
      | .ok p => f p.1 p.2
      | .error e => .error e := by
  show (x st >>= fun p => f p.1 p.2) = _
  cases x st <;> rfl

end Pel
