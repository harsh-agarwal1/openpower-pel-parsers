import PelProofs.FramesSrc
/- One optional section of any kind: exact framing and prefix rejection (assembled from the per-kind lemmas). -/
namespace Pel

/-! ### the dispatch of `decodeSection` on a header with a known id

`decodeSection` compares the id with one section id after the other; the ids are pairwise different numerals, so each `simp` below
decides the comparisons in front of its own branch. -/

theorem decodeSection_SRC (env : Env) (creator : Text) (id len : Nat) (h : AHdr) (hid : id = sidPS ∨ id = sidSS) :
    decodeSection env creator (mkSecHdr id len h) =
      (decodeSRC env.T env.src (mkSecHdr id len h) creator env.allowPlugins >>= fun p => pure (p.1, some p.2)) := by
  unfold decodeSection
  rw [if_pos (show (mkSecHdr id len h).id = sidPS ∨ (mkSecHdr id len h).id = sidSS from hid)]

theorem decodeSection_EH (env : Env) (creator : Text) (len : Nat) (h : AHdr) :
    decodeSection env creator (mkSecHdr sidEH len h) =
      (decodeEH env.T (mkSecHdr sidEH len h) creator >>= fun j => pure (j, none)) := by
  simp [decodeSection, mkSecHdr, sidPS, sidSS, sidEH]

theorem decodeSection_MT (env : Env) (creator : Text) (len : Nat) (h : AHdr) :
    decodeSection env creator (mkSecHdr sidMT len h) =
      (decodeMT env.T (mkSecHdr sidMT len h) creator >>= fun j => pure (j, none)) := by
  simp [decodeSection, mkSecHdr, sidPS, sidSS, sidEH, sidMT]

theorem decodeSection_ED (env : Env) (creator : Text) (len : Nat) (h : AHdr) :
    decodeSection env creator (mkSecHdr sidED len h) =
      (decodeED env.T env.ud env.allowPlugins (mkSecHdr sidED len h) >>= fun j => pure (j, none)) := by
  simp [decodeSection, mkSecHdr, sidPS, sidSS, sidEH, sidMT, sidED]

theorem decodeSection_UD (env : Env) (creator : Text) (len : Nat) (h : AHdr) :
    decodeSection env creator (mkSecHdr sidUD len h) =
      (decodeUD env.T env.ud env.allowPlugins (mkSecHdr sidUD len h) creator >>= fun j => pure (j, none)) := by
  simp [decodeSection, mkSecHdr, sidPS, sidSS, sidEH, sidMT, sidED, sidUD]

theorem decodeSection_LP (env : Env) (creator : Text) (len : Nat) (h : AHdr) :
    decodeSection env creator (mkSecHdr sidLP len h) =
      (decodeLP env.T (mkSecHdr sidLP len h) creator >>= fun j => pure (j, none)) := by
  simp [decodeSection, mkSecHdr, sidPS, sidSS, sidEH, sidMT, sidED, sidUD, sidLP]

theorem isSpecialId_false (id : Nat) (h : isSpecialId id = false) :
    id ≠ sidPS ∧ id ≠ sidSS ∧ id ≠ sidEH ∧ id ≠ sidMT ∧ id ≠ sidLP ∧ id ≠ sidUD ∧ id ≠ sidED := by
  simp only [isSpecialId, Bool.or_eq_false_iff, beq_eq_false_iff_ne, ne_eq] at h
  obtain ⟨⟨⟨⟨⟨⟨⟨⟨_, _⟩, h3⟩, h4⟩, h5⟩, h6⟩, h7⟩, h8⟩, h9⟩ := h
  exact ⟨h3, h4, h5, h6, h7, h8, h9⟩

theorem decodeSection_other (env : Env) (creator : Text) (id len : Nat) (h : AHdr) (hid : isSpecialId id = false) :
    decodeSection env creator (mkSecHdr id len h) =
      (decodeDefault (mkSecHdr id len h) >>= fun j => pure (j, none)) := by
  obtain ⟨h1, h2, h3, h4, h5, h6, h7⟩ := isSpecialId_false id hid
  simp [decodeSection, mkSecHdr, h1, h2, h3, h4, h5, h6, h7]

/-! ### from a framed consumer to a framed section -/

/-- the reference code a section contributes besides its entry: that of an SRC -/
def secRc : ABody → Option Text
  | .src _ x => some (stripSp x.ascii)
  | _ => none

theorem frames_decodeSection (env : Env) (creator : Text) (sec : ASection) (hs : sec.WF) (j : J)
    (hr : renderSection env creator sec = .ok j) :
    Frames (decodeSection env creator (mkSecHdr sec.body.id (8 + sec.body.enc.length) sec.hdr)) sec.body.enc
      (j, secRc sec.body) := by
  obtain ⟨hdr, body⟩ := sec
  obtain ⟨hw, hb, hl⟩ := hs
  simp only at hw hb hl ⊢
  cases body with
  | src primary x =>
    simp only [renderSection] at hr
    split at hr
    · rename_i hd
      cases hr
      rw [decodeSection_SRC env creator _ _ hdr (by cases primary <;> simp [ABody.id])]
      exact (frames_SRC env.T env.src hdr creator env.allowPlugins x hb _ _ hd).map _
    · cases hr
  | eh e =>
    cases hr
    rw [show (ABody.eh e).id = sidEH from rfl, decodeSection_EH]
    exact (frames_EH env.T hdr creator e hb _ _).map _
  | mt m =>
    cases hr
    rw [show (ABody.mt m).id = sidMT from rfl, decodeSection_MT]
    exact (frames_MT env.T hdr creator m hb _ _).map _
  | lp l =>
    cases hr
    rw [show (ABody.lp l).id = sidLP from rfl, decodeSection_LP]
    exact (frames_LP env.T hdr creator l hb _ _).map _
  | ud p =>
    rw [show (ABody.ud p).id = sidUD from rfl, decodeSection_UD]
    exact (frames_UD env hdr creator p hb.1 j hr).map _
  | ed c r1 r2 p =>
    obtain ⟨hc, h1, h2, hp, _⟩ := hb
    have hlen : 8 + (ABody.ed c r1 r2 p).enc.length = 12 + p.length := by
      simp only [ABody.enc, List.length_append, toBE_length, List.length_cons, List.length_nil]; omega
    rw [show (ABody.ed c r1 r2 p).id = sidED from rfl, decodeSection_ED, hlen]
    exact (frames_ED env hdr c r1 r2 p hc h1 h2 hp j hr).map _
  | other id p =>
    cases hr
    rw [show (ABody.other id p).id = id from rfl, decodeSection_other env creator id _ hdr hb.2.1]
    exact (frames_Default hdr id p hb.2.2.1).map _

theorem body_id_lt (b : ABody) (h : b.WF) : b.id < 65536 := by
  cases b with
  | src primary x => cases primary <;> simp only [ABody.id] <;> decide
  | other id p => exact h.1
  | _ => simp only [ABody.id] <;> decide

theorem frames_decodeOne (env : Env) (creator : Text) (id : Nat) (hdr : AHdr) (body : Bytes) (j : J) (o : Option Text)
    (hw : hdr.WF) (hid : id < 65536) (hl : 8 + body.length < 65536)
    (hf : Frames (decodeSection env creator (mkSecHdr id (8 + body.length) hdr)) body (j, o)) :
    Frames (decodeOne env creator) (encHdr id body.length hdr ++ body) (sectionName env.T id, j) := by
  unfold decodeOne
  refine Frames.bind (frames_parseHeader id body.length hdr hw hid hl) ?_
  exact Frames.cast (Frames.bind hf (Frames.pure _)) (List.append_nil _) rfl

theorem frames_section (env : Env) (creator : Text) (sec : ASection) (hs : sec.WF) (j : J)
    (hr : renderSection env creator sec = .ok j) :
    Frames (decodeOne env creator) sec.enc (sectionName env.T sec.body.id, j) :=
  frames_decodeOne env creator _ sec.hdr _ j _ hs.1 (body_id_lt _ hs.2.1) hs.2.2 (frames_decodeSection env creator sec hs j hr)

end Pel
