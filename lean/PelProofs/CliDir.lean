import PelModel.Cli
import PelProofs.FileList
import PelProofs.FramesPel
import PelProofs.Registry
import PelProofs.SrcKeys
/-
  What the summary, full and count decoders return on the encoding of an abstract PEL (C08), and the look-ups the summary makes in
  the rendered headers and primary SRC.
-/
namespace Pel.C08

/-! Part of the specification of C08 (see the head of PelProps/C08.lean): what `--list` / `--plid` / `--src` must show for a PEL. -/

/-- the reference code of the primary SRC, if the PEL has one -/
def primaryRefcode (p : APel) : Option Text :=
  (p.sections.findSome? fun sec => match sec.body with
    | .src true x => some (stripSp x.ascii)
    | _ => none)

/-- the primary SRC of the PEL (the first one), if it has one -/
def primarySrc (p : APel) : Option ASrc :=
  p.sections.findSome? fun sec => match sec.body with
    | .src true x => some x
    | _ => none

/-- the registry message of the primary SRC: the `Message` member of its "Error Details", which only BMC / power / hostboot
    SRCs with a matching registry entry (and a non-empty message) have -/
def primaryMessage (env : Env) (p : APel) : Option J :=
  (primarySrc p).bind fun x =>
    if x.ascii.take 2 = s "BD" ∨ x.ascii.take 2 = s "11" ∨ x.ascii.take 2 = s "BC" then
      match errorDetails env.src.registry x.ascii x.words with
      | .some ms => objGet? ms (s "Message")
      | _ => none
    else none

/-- what a --list entry shows, written from the fields of the PEL (member order as `parsePELSummary` stores them: `SRC`,
    `Message` — only when the registry supplies one —, `PLID`, …) -/
def specSummary (env : Env) (p : APel) : List (Text × J) :=
  (match primaryRefcode p with
    | some rc => [(s "SRC", J.str rc)]
    | none => []) ++
  (match primaryMessage env p with
    | some m => [(s "Message", m)]
    | none => []) ++
  [(s "PLID", .str (ox (fmtHex 2 p.ph.plid))),
   (s "CreatorID", .str ((lookupT env.T.creators [p.ph.creator]).getD (s "Unknown"))),
   (s "Subsystem", .str ((lookupN env.T.subsystems p.uh.subsys).getD (s "Invalid"))),
   (s "Commit Time", .str (bcdTime p.ph.commit)),
   (s "Sev", .str ((lookupN env.T.severities p.uh.sev).getD (s "Invalid"))),
   (s "CompID", .str (displayCompID env.T p.ph.hdr.comp [p.ph.creator]))]

end Pel.C08

namespace Pel

/-! ### the registry message of the primary SRC (the `Message` member of a summary) -/

theorem errorDetails_has_message (reg : List RegEntry) (ascii : Text) (words : List Nat) (ms : List (Text × J))
    (h : errorDetails reg ascii words = .some ms) : (objGet? ms (s "Message")).isSome = true := by
  rw [errorDetails_eq] at h
  split at h
  · cases h
  · obtain ⟨msg, descs, -, -, rfl⟩ := detailsOf_eq_some h
    exact objGet?_objUpdate_isSome _ _ _ (by simp [objGet?, kv])

theorem renderSrc_errorDetails (T : Tables) (env : SrcEnv) (h : AHdr) (creator : Text) (allow : Bool) (x : ASrc) :
    ∃ L, renderSrc T env h creator allow x = .obj L ∧
      objGet? L (s "Error Details") =
        if x.ascii.take 2 = s "BD" ∨ x.ascii.take 2 = s "11" ∨ x.ascii.take 2 = s "BC" then
          match errorDetails env.registry x.ascii x.words with
          | .some ms => some (.obj ms)
          | _ => none
        else none := by
  obtain ⟨L, hL⟩ : ∃ L, renderSrc T env h creator allow x = .obj L := ⟨_, rfl⟩
  refine ⟨L, hL, ?_⟩
  have hneg : ¬ (((x.ascii.take 2 = s "BD" ∨ x.ascii.take 2 = s "11") ∨ x.ascii.take 2 = s "BC") ∧
      ∃ ms, errorDetails env.registry x.ascii x.words = .some ms) → objGet? L (s "Error Details") = none := fun hn =>
    objGet?_none_of_keys _ _ fun p hp e => hn ((renderSrc_optional T env h creator allow x L hL p hp).1 e)
  by_cases hc : x.ascii.take 2 = s "BD" ∨ x.ascii.take 2 = s "11" ∨ x.ascii.take 2 = s "BC"
  · rw [if_pos hc]
    cases hed : errorDetails env.registry x.ascii x.words with
    | some ms =>
      -- the member is there, after members with other keys
      cases hL
      simp only [hdrMembers, List.append_assoc, if_pos (show (x.ascii.take 2 = s "BD" ∨ x.ascii.take 2 = s "11") ∨ x.ascii.take 2 = s "BC" by
        rcases hc with h | h | h <;> simp [h]), hed]
      rw [objGet?_append_none _ _ _ (by simp [kv, s_eq_iff]), objGet?_append_none _ _ _ (by simp [kv, s_eq_iff]),
        objGet?_append_none _ _ _ (by split <;> simp [kv, s_eq_iff]), objGet?_append_none _ _ _ (by simp [kv, s_eq_iff])]
      simp [objGet?, kv]
    | _ => exact hneg fun ⟨_, ms, h⟩ => by rw [hed] at h; cases h
  · rw [if_neg hc]
    exact hneg fun ⟨h, _⟩ => hc (by rcases h with (h | h) | h <;> simp [h])

/-- the summary loop's look-ups on the rendered primary SRC never raise and find the registry message -/
theorem summaryMessage_renderSrc (env : Env) (ph : APH) (uh : AUH) (h : AHdr) (secs : List ASection) (creator : Text) (x : ASrc)
    (rest : Bytes) :
    summaryMessage (renderSrc env.T env.src h creator env.allowPlugins x) rest =
      .ok (C08.primaryMessage env ⟨ph, uh, ⟨h, .src true x⟩ :: secs⟩, rest) := by
  obtain ⟨L, hL, hg⟩ := renderSrc_errorDetails env.T env.src h creator env.allowPlugins x
  rw [hL]
  unfold summaryMessage
  simp only [jIn, jItem, hg, C08.primaryMessage, C08.primarySrc, List.findSome?_cons, Option.bind_some]
  split
  · split
    next ms hed =>
      obtain ⟨m, hm⟩ := Option.isSome_iff_exists.1 (errorDetails_has_message _ _ _ ms hed)
      simp only [Option.isSome_some, Option.bind_some, jItem, hm]
      rfl
    · rfl
  · rfl

/-! ### the summary, count and full decoders on the encoding of an abstract PEL -/

theorem exceptAll_ok_mem {α} (l : List (Except Err α)) (js : List α) (h : exceptAll l = .ok js) :
    ∀ a ∈ l, ∃ x, a = .ok x := by
  induction l generalizing js with
  | nil => intro a ha; cases ha
  | cons b l ih =>
    obtain ⟨x, js', hb, hl, _⟩ := exceptAll_cons_ok b l js h
    intro a ha
    rcases List.mem_cons.1 ha with rfl | ha
    · exact ⟨x, hb⟩
    · exact ih js' hl a ha

theorem render_sections_ok (env : Env) (p : APel) (d : J) (hr : render env p = .ok d) :
    ∀ sec ∈ p.sections, ∃ j, renderSection env [p.ph.creator] sec = .ok j := by
  obtain ⟨js, hjs, -, -⟩ := render_ok env p d hr
  exact fun sec hsec => exceptAll_ok_mem _ js hjs _ (List.mem_map_of_mem hsec)

/-- a section is the primary SRC, or the summary loop passes it by and the specification does not see it -/
theorem body_summary_step (b : ABody) (h : b.WF) (hdr : AHdr) (ph : APH) (uh : AUH) (secs : List ASection) :
    (∃ x, b = .src true x) ∨ (b.id ≠ sidPS ∧
      C08.primaryRefcode ⟨ph, uh, ⟨hdr, b⟩ :: secs⟩ = C08.primaryRefcode ⟨ph, uh, secs⟩ ∧
      C08.primarySrc ⟨ph, uh, ⟨hdr, b⟩ :: secs⟩ = C08.primarySrc ⟨ph, uh, secs⟩) := by
  cases b with
  | src primary x =>
    cases primary
    · exact .inr ⟨by simp only [ABody.id]; decide, rfl, rfl⟩
    · exact .inl ⟨x, rfl⟩
  | other id p => exact .inr ⟨(isSpecialId_false id h.2.1).1, rfl, rfl⟩
  | _ => exact .inr ⟨by simp only [ABody.id]; decide, rfl, rfl⟩

theorem summarySections_enc (env : Env) (ph : APH) (uh : AUH) (creator : Text) : ∀ (secs : List ASection), (∀ sec ∈ secs, sec.WF) →
    (∀ sec ∈ secs, ∃ j, renderSection env creator sec = .ok j) → ∀ rest,
    ∃ rest', summarySections env creator secs.length (secs.flatMap (·.enc) ++ rest) =
      .ok ((C08.primaryRefcode ⟨ph, uh, secs⟩, C08.primaryMessage env ⟨ph, uh, secs⟩), rest')
  | [], _, _, rest => ⟨rest, rfl⟩
  | sec :: secs, hs, hr, rest => by
    have hw := hs sec (by simp)
    obtain ⟨j, hj⟩ := hr sec (by simp)
    obtain ⟨rest', ih⟩ := summarySections_enc env ph uh creator secs (fun s h => hs s (by simp [h]))
      (fun s h => hr s (by simp [h])) rest
    have f1 := frames_parseHeader sec.body.id sec.body.enc.length sec.hdr hw.1 (body_id_lt _ hw.2.1) hw.2.2
    have f2 := frames_decodeSection env creator sec hw j hj
    have e : (sec :: secs).flatMap (·.enc) ++ rest =
        encHdr sec.body.id sec.body.enc.length sec.hdr ++ (sec.body.enc ++ (secs.flatMap (·.enc) ++ rest)) := by
      simp [ASection.enc]
    rw [e, List.length_cons]
    unfold summarySections
    rw [bind_ok _ _ _ _ _ (f1.exact _), bind_ok _ _ _ _ _ (f2.exact _)]
    obtain ⟨hdr, body⟩ := sec
    dsimp only
    rcases body_summary_step body hw.2.1 hdr ph uh secs with ⟨x, hb⟩ | ⟨h1, h2, h3⟩
    · -- the primary SRC: `j` is its rendering
      subst hb
      simp only [renderSection] at hj
      split at hj
      · cases hj
        rw [if_pos (show (mkSecHdr (ABody.src true x).id _ hdr).id = sidPS from rfl),
          bind_ok _ _ _ _ _ (summaryMessage_renderSrc env ph uh hdr secs creator x _)]
        exact ⟨_, rfl⟩
      · cases hj
    · rw [if_neg (show ¬ (mkSecHdr body.id (8 + body.enc.length) hdr).id = sidPS from h1), C08.primaryMessage, h2, h3]
      exact ⟨rest', ih⟩

theorem parseSummary_enc (env : Env) (cfg : SelCfg) (p : APel) (hp : p.WF) (hr : ∃ d, render env p = .ok d) :
    parseSummary env cfg p.enc =
      if considerPEL p.uh.sev p.uh.af cfg then
        .summary { eid := ox (fmtHex 2 p.ph.eid), fields := C08.specSummary env p } p.ph.plid (C08.primaryRefcode p)
      else .filtered := by
  obtain ⟨d, hd⟩ := hr
  obtain ⟨rest', h5⟩ := summarySections_enc env p.ph p.uh [p.ph.creator] p.sections hp.2.2.2 (render_sections_ok env p d hd) []
  unfold parseSummary
  rw [show parseSummaryRd env cfg = withHeads env.T (pure .badHeader) _ from rfl, ← List.append_nil p.enc, withHeads_enc _ _ _ p hp]
  cases hsel : considerPEL p.uh.sev p.uh.af cfg with
  | false =>
    simp only [hsel]
    rfl
  | true =>
    simp only [hsel, Bool.not_true, Bool.false_eq_true, if_false, Nat.add_sub_cancel]
    rw [bind_ok _ _ _ _ _ h5]
    -- the four look-ups in the rendered headers compare literal keys: as `String`s (`s_eq_iff`, `String.reduceEq`)
    simp only [renderPH, renderUH, hdrMembers, kv, jstr, List.cons_append, List.nil_append, objGet?, s_eq_iff, String.reduceEq, if_false,
      if_true, Option.getD_some]
    rfl

theorem summaryOf_enc (env : Env) (cfg : SelCfg) (p : APel) (hp : p.WF) (hr : ∃ d, render env p = .ok d) (name : Text) :
    summaryOf env cfg { name := name, data := p.enc } =
      if considerPEL p.uh.sev p.uh.af cfg then
        .some ({ eid := ox (fmtHex 2 p.ph.eid), fields := C08.specSummary env p }, p.ph.plid, C08.primaryRefcode p)
      else .skip := by
  unfold summaryOf
  rw [parseSummary_enc env cfg p hp hr]
  cases considerPEL p.uh.sev p.uh.af cfg <;> rfl

theorem countOne_heads (env : Env) (cfg : SelCfg) (f : FileEntry) : countOne env cfg f =
    match withHeads env.T (pure FileRes.skip) (fun _ _ _ uh =>
      if considerPEL uh.2.severity uh.2.actionFlags cfg then pure (.some ()) else pure .skip) f.data with
    | .ok (x, _) => x
    | .error _ => .diag := rfl

theorem countOne_enc (env : Env) (cfg : SelCfg) (p : APel) (hp : p.WF) (name : Text) :
    countOne env cfg { name := name, data := p.enc } =
      if considerPEL p.uh.sev p.uh.af cfg then .some () else .skip := by
  rw [countOne_heads, ← List.append_nil p.enc, withHeads_enc _ _ _ p hp]
  cases considerPEL p.uh.sev p.uh.af cfg <;> rfl

theorem fullOf_enc (env : Env) (cfg : SelCfg) (p : APel) (hp : p.WF) (d : J) (hr : render env p = .ok d)
    (hnames : (sectionName env.T sidPH :: sectionName env.T sidUH ::
        numberNames (p.sections.map (fun sec => sectionName env.T sec.body.id))
                    (p.sections.map (fun sec => sectionName env.T sec.body.id))).Nodup) (name : Text) :
    fullOf env cfg { name := name, data := p.enc } =
      if considerPEL p.uh.sev p.uh.af cfg then .some (fmtHex 2 p.ph.eid, d) else .skip := by
  unfold fullOf parsePEL
  cases hsel : considerPEL p.uh.sev p.uh.af cfg with
  | true =>
    rw [← List.append_nil p.enc, (frames_pel env cfg p hp hsel d hr hnames).exact []]
    rfl
  | false =>
    rw [show parsePELRd env cfg = withHeads env.T (pure .badHeader) _ from rfl, ← List.append_nil p.enc, withHeads_enc _ _ _ p hp]
    simp only [hsel]
    rfl

/-! ### the printed documents -/

theorem render_obj (env : Env) (p : APel) (d : J) (hr : render env p = .ok d) :
    ∃ tail, d = .obj ((sectionName env.T sidPH, renderPH env.T p.ph) ::
      (sectionName env.T sidUH, renderUH env.T p.uh [p.ph.creator]) :: tail) := by
  obtain ⟨js, -, -, rfl⟩ := render_ok env p d hr
  exact ⟨_, rfl⟩

theorem ox_fmtHex_inj (w a b : Nat) (h : ox (fmtHex w a) = ox (fmtHex w b)) : a = b := by
  unfold ox at h
  exact fmtHex_injective w a b (List.append_cancel_left h)

theorem summaryObj_of_nodup (es : List Summary) (h : (es.map (·.eid)).Nodup) :
    summaryObj es = .obj (es.map fun e => (e.eid, .obj e.fields)) := by
  unfold summaryObj
  have := objUpdate_fresh (es.map fun e => (e.eid, J.obj e.fields)) [] (by simpa [Function.comp_def] using h)
  rw [objUpdate, List.foldl_map] at this
  rw [this]; rfl

end Pel
