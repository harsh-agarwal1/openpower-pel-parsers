import PelProofs.HexDump
/- Round trip `parse ∘ hexdump = id` for the three line formats.  All three templates have the shape
   `P ++ hex column ++ F`; `parseLine_column` is the one statement about such a line, and the three formats are
   instances of it. -/
namespace Pel

theorem fmtDefault_eq : fmtDefault =
    (List.replicate 8 chA ++ spaces 5) ++ (rawD 2 4 0 16 ++ (spaces 5 ++ List.replicate 16 chC)) := by
  rw [fmtDefault_lit]; decide
theorem fmtBmc_eq : fmtBmc =
    (List.replicate 4 chA ++ [58, 32, 32]) ++ (rawD 1 4 0 16 ++ (spaces 2 ++ ([60] ++ (List.replicate 16 chC ++ [62])))) := by
  rw [fmtBmc_lit]; decide
theorem fmtPre_eq : fmtPre = [] ++ (rawD 1 1 0 16 ++ ([32] ++ List.replicate 16 chC)) := by
  rw [fmtPre_lit]; decide

/-- the widths of the three hex columns: 32 digits and 2·3, 1·3, 1·15 separating blanks.  The renderers pad a short column to the same
    width: `dumpLine` to `charPerLine 16 4 = 38`, `bmcLine` to 35, `preLine` to 48, which counts the blank `preRaw` puts behind its last
    byte as well -/
theorem rawD_default_length : (rawD 2 4 0 16).length = 38 := by decide
theorem rawD_bmc_length : (rawD 1 4 0 16).length = 35 := by decide
theorem rawD_pre_length : (rawD 1 1 0 16).length = 47 := by decide

/-- the padding of a short hex column runs into the blanks that follow it -/
theorem ljust_spaces (n m : Nat) (t R : Text) : ljust n 32 t ++ (spaces m ++ R) = t ++ (spaces (n - t.length + m) ++ R) := by
  simp only [ljust, spaces, List.append_assoc]
  rw [← List.append_assoc (List.replicate _ 32), List.replicate_append_replicate]

/-- One line of any of the templates `P ++ hex column ++ F`: the line is `L` (in step with `P`), the hex column of the
    chunk, and then either nothing (truncated line), or more than `w` blanks (padded short line), or, for a full
    chunk, text in step with `F`. -/
theorem parseLine_column {w c n : Nat} {P L F R line : Text} {ck : Bytes} (hline : line = L ++ (rawSep w c 0 ck ++ R))
    (hP : skips P L = true) (hb : ∀ x ∈ ck, x < 256) (hk : ck.length ≤ n)
    (hR : (∃ k, R = spaces k) ∨ (ck.length < n ∧ ∃ k R', w < k ∧ R = spaces k ++ R') ∨ (ck.length = n ∧ skips F R = true))
    (hnl : rstripNL line = line) (hlen : line.length ≤ (P ++ (rawD w c 0 n ++ F)).length) :
    parseLine (P ++ (rawD w c 0 n ++ F)) line = ck := by
  unfold parseLine
  simp only [hnl, if_pos hlen]
  rw [hline, parseGo_skips P L hP, parseGo_raw w c ck 0 n [] F R hb hk, List.nil_append]
  rcases hR with ⟨k, rfl⟩ | ⟨hlt, k, R', hk', rfl⟩ | ⟨rfl, hF⟩
  · exact parseGo_blanks _ _ _ _
  · obtain ⟨m, hm⟩ : ∃ m, n - ck.length = m + 1 := ⟨n - ck.length - 1, by omega⟩
    rw [hm, parseGo_rawD_blank w c _ m k F R' none ck hk']
  · have := parseGo_skips F R hF [] [] none ck
    simpa [rawD] using this

/-- `parseLine_column`'s `hR` for a line whose hex column is padded to the width of the template's: `pad` blanks, none for a full
    chunk, run into the `k` blanks that follow the column in line and template alike -/
theorem padded_rest {w n len pad k : Nat} {F T : Text} (hk : len ≤ n) (hpad : len = n → pad = 0) (hw : len < n → w < pad + k)
    (hT : len = n → skips F T = true) :
    (len < n ∧ ∃ k' R', w < k' ∧ spaces (pad + k) ++ T = spaces k' ++ R') ∨
      (len = n ∧ skips (spaces k ++ F) (spaces (pad + k) ++ T) = true) := by
  by_cases hfull : len = n
  · refine Or.inr ⟨hfull, ?_⟩
    rw [hpad hfull, Nat.zero_add]
    exact skips_append _ _ _ _ (skips_spaces k) (hT hfull)
  · exact Or.inl ⟨by omega, _, _, hw (by omega), rfl⟩

theorem parseLine_dumpLine (off : Nat) (ck : Bytes) (hoff : off < 2 ^ 32) (hk : ck.length ≤ 16) (hne : ck ≠ [])
    (hb : ∀ x ∈ ck, x < 256) : parseLine fmtDefault (dumpLine 16 4 off ck) = ck := by
  have hr : (rawSep 2 4 0 ck).length = 2 * ck.length + 2 * ((ck.length - 1) / 4) := rawSep_length_zero 2 4 ck hne
  have e : dumpLine 16 4 off ck = (hexFix 8 off ++ spaces 5) ++
      (rawSep 2 4 0 ck ++ (spaces (38 - (rawSep 2 4 0 ck).length + 5) ++ ljust 16 32 (ck.map asciiCell))) := by
    simp only [dumpLine, rawFrom, fmtHex8_eq off hoff, List.append_assoc, ljust_spaces]; rfl
  rw [fmtDefault_eq]
  refine parseLine_column e (skips_append _ _ _ _ (skips_addr _ (hexFix_all_hex 8 off)) (skips_spaces 5)) hb hk
    (Or.inr (padded_rest hk (by omega) (by omega) fun hfull => ?_)) ?_ ?_
  · simpa [ljust, hfull] using skips_text (ck.map asciiCell)
  · unfold dumpLine
    exact rstripNL_append_of_all_ne _ _ (by intro h; have := congrArg List.length h; simp at this) (ljust_text_all_ne_nl 16 ck)
  · rw [e]; simp [rawD_default_length]; omega

theorem s_addrSep : s ":  " = [58, 32, 32] := s_ofList _
theorem s_lt : s "  <" = spaces 2 ++ [60] := s_ofList _
theorem s_gt : s ">" = [62] := s_ofList _

theorem bmcLine_rstrip (pad : Bool) (off : Nat) (ck : Bytes) (hne : ck ≠ []) :
    rstripNL (bmcLine pad off ck) = bmcLine pad off ck := by
  cases pad with
  | true =>
    simp only [bmcLine, if_true, s_gt]
    exact rstripNL_append_of_all_ne _ [62] (by decide) (by decide)
  | false =>
    simp only [bmcLine, bmcRaw, Bool.false_eq_true, if_false]
    exact rstripNL_append_of_all_ne _ _ (rawSep_ne_nil 1 4 0 ck hne) (rawSep_all_ne_nl 1 4 ck 0)

theorem parseLine_bmcLine (pad : Bool) (off : Nat) (ck : Bytes) (hk : ck.length ≤ 16) (hne : ck ≠ [])
    (hb : ∀ x ∈ ck, x < 256) : parseLine fmtBmc (bmcLine pad off ck) = ck := by
  have hr : (rawSep 1 4 0 ck).length = 2 * ck.length + 1 * ((ck.length - 1) / 4) := rawSep_length_zero 1 4 ck hne
  have hP : skips (List.replicate 4 chA ++ [58, 32, 32]) (hexFix 4 off ++ [58, 32, 32]) = true :=
    skips_append _ _ _ _ (skips_addr _ (hexFix_all_hex 4 off)) (by decide)
  rw [fmtBmc_eq]
  cases pad with
  | false =>
    have e : bmcLine false off ck = (hexFix 4 off ++ [58, 32, 32]) ++ (rawSep 1 4 0 ck ++ []) := by
      simp [bmcLine, bmcRaw, s_addrSep]
    refine parseLine_column e hP hb hk (Or.inl ⟨0, rfl⟩) (bmcLine_rstrip false off ck hne) ?_
    rw [e]; simp [rawD_bmc_length]; omega
  | true =>
    have e : bmcLine true off ck = (hexFix 4 off ++ [58, 32, 32]) ++
        (rawSep 1 4 0 ck ++ (spaces (35 - (rawSep 1 4 0 ck).length + 2) ++ ([60] ++ (ljust 16 32 (ck.map asciiCell) ++ [62])))) := by
      simp only [bmcLine, bmcRaw, if_true, s_addrSep, s_lt, s_gt, List.append_assoc, ljust_spaces]
    refine parseLine_column e hP hb hk (Or.inr (padded_rest hk (by omega) (by omega) fun hfull => ?_)) (bmcLine_rstrip true off ck hne) ?_
    · refine skips_append [60] [60] _ _ (by decide) (skips_append _ _ [62] [62] ?_ (by decide))
      simpa [ljust, hfull] using skips_text (ck.map asciiCell)
    · rw [e]; simp [rawD_bmc_length]; omega

theorem preRaw_eq_aux : ∀ (bs : Bytes) (j : Nat), 1 ≤ j → rawSep 1 1 j bs ++ [32] = 32 :: preRaw bs := by
  intro bs
  induction bs with
  | nil => intro j _; rfl
  | cons b bs ih =>
    intro j hj
    have hc : j ≠ 0 ∧ j % 1 = 0 := ⟨by omega, Nat.mod_one j⟩
    simp only [rawSep, if_pos hc, preRaw, List.append_assoc, ih (j+1) (by omega)]; rfl

/-- the pre-BMC hex column is the general one (one blank between bytes) with one more blank behind it -/
theorem preRaw_eq (ck : Bytes) (hne : ck ≠ []) : preRaw ck = rawSep 1 1 0 ck ++ [32] := by
  match ck, hne with
  | b :: bs, _ => simp [rawSep, preRaw, preRaw_eq_aux bs 1 (Nat.le_refl _)]

theorem preLine_rstrip (pad : Bool) (ck : Bytes) (hne : ck ≠ []) : rstripNL (preLine pad ck) = preLine pad ck := by
  cases pad with
  | true =>
    simp only [preLine, if_true]
    exact rstripNL_append_of_all_ne _ _ (by intro h; have := congrArg List.length h; simp at this) (ljust_text_all_ne_nl 16 ck)
  | false =>
    simp only [preLine, Bool.false_eq_true, if_false, preRaw_eq ck hne]
    exact rstripNL_append_of_all_ne _ _ (by decide) (by decide)

theorem parseLine_preLine (pad : Bool) (ck : Bytes) (hk : ck.length ≤ 16) (hne : ck ≠ [])
    (hb : ∀ x ∈ ck, x < 256) : parseLine fmtPre (preLine pad ck) = ck := by
  have hr : (rawSep 1 1 0 ck).length = 2 * ck.length + 1 * ((ck.length - 1) / 1) := rawSep_length_zero 1 1 ck hne
  rw [Nat.div_one] at hr
  rw [fmtPre_eq]
  cases pad with
  | false =>
    have e : preLine false ck = [] ++ (rawSep 1 1 0 ck ++ spaces 1) := by
      simp [preLine, preRaw_eq ck hne, spaces]
    refine parseLine_column e rfl hb hk (Or.inl ⟨1, rfl⟩) (preLine_rstrip false ck hne) ?_
    rw [e]; simp [rawD_pre_length]; omega
  | true =>
    have e : preLine true ck = [] ++ (rawSep 1 1 0 ck ++ (spaces (48 - ((rawSep 1 1 0 ck).length + 1) + 1) ++ ljust 16 32 (ck.map asciiCell))) := by
      simp [preLine, preRaw_eq ck hne, ljust, spaces, List.replicate_succ]
    refine parseLine_column e rfl hb hk (Or.inr (padded_rest hk (by omega) (by omega) fun hfull => ?_)) (preLine_rstrip true ck hne) ?_
    · simpa [ljust, hfull] using skips_text (ck.map asciiCell)
    · rw [e]; simp [rawD_pre_length]; omega

/-! ### whole dumps -/

theorem parseDump_map_chunks (fmt : Text) {l : Nat} (hl : 0 < l) (g : Nat → Bytes → Text) (off : Nat) (b : Bytes)
    (h : ∀ p ∈ chunks l off b, parseLine fmt (g p.1 p.2) = p.2) :
    parseDump fmt ((chunks l off b).map fun p => g p.1 p.2) = b := by
  have e := chunks_flatMap l off b hl
  simp only [List.flatMap_def] at e
  rw [parseDump, List.flatMap_map, List.flatMap_def, List.map_congr_left h, e]

theorem parseDump_hexdumpFrom (b : Bytes) (off : Nat) (hb : ∀ x ∈ b, x < 256) (hoff : off + b.length ≤ 2 ^ 32) :
    parseDump fmtDefault (hexdumpFrom 16 4 off b) = b := by
  rw [hexdumpFrom_eq 16 4 off b (by omega)]
  refine parseDump_map_chunks _ (by omega) _ off b fun p hp => ?_
  obtain ⟨hne, hk, ho, hsub⟩ := mem_chunks (by omega) hp
  have : 0 < p.2.length := List.length_pos_iff.mpr hne
  exact parseLine_dumpLine p.1 p.2 (by omega) hk hne (fun x hx => hb x (hsub x hx))

theorem parseDump_hexdump16 (b : Bytes) (hb : ∀ x ∈ b, x < 256) (hlen : b.length ≤ 2 ^ 32) :
    parseDump fmtDefault (hexdump16 b) = b :=
  parseDump_hexdumpFrom b 0 hb (by omega)

theorem parseDump_renderBmc (pad : Bool) (b : Bytes) (hb : ∀ x ∈ b, x < 256) :
    parseDump fmtBmc (renderBmc pad b) = b := by
  rw [renderBmc, renderBmcFrom_eq]
  refine parseDump_map_chunks _ (by omega) _ 0 b fun p hp => ?_
  obtain ⟨hne, hk, _, hsub⟩ := mem_chunks (by omega) hp
  exact parseLine_bmcLine pad p.1 p.2 hk hne (fun x hx => hb x (hsub x hx))

theorem parseDump_renderPre (pad : Bool) (b : Bytes) (hb : ∀ x ∈ b, x < 256) :
    parseDump fmtPre (renderPre pad b) = b := by
  rw [renderPre_eq]
  refine parseDump_map_chunks _ (by omega) (fun _ => preLine pad) 0 b fun p hp => ?_
  obtain ⟨hne, hk, _, hsub⟩ := mem_chunks (by omega) hp
  exact parseLine_preLine pad p.2 hk hne (fun x hx => hb x (hsub x hx))

/-! ### noise lines -/

/-- (the first cell has to be `A` or `D`: that is what stops the scan at a first character that is no hex digit) -/
theorem parseLine_noise (fmt : Text) (line : Text) (hf : fmt.head? = some chA ∨ fmt.head? = some chD)
    (h : isNoise (rstripNL line) = true) : parseLine fmt line = [] := by
  unfold parseLine
  simp only
  split
  · cases hl : rstripNL line with
    | nil => simp
    | cons c t =>
      rw [hl] at h
      simp only [isNoise, Bool.not_eq_true'] at h
      cases fmt with
      | nil => simp at hf
      | cons f fs =>
        simp only [List.head?_cons, Option.some.injEq] at hf
        rcases hf with rfl | rfl
        · simp [parseGo, h]
        · simp [parseGo, h, chD, chA]
  · rfl

theorem flatMap_filter_of_nil {α β} (f : α → List β) (p : α → Bool) (l : List α)
    (h : ∀ x ∈ l, p x = false → f x = []) : l.flatMap f = (l.filter p).flatMap f := by
  induction l with
  | nil => simp
  | cons a l ih =>
    have ih' := ih (fun x hx => h x (by simp [hx]))
    by_cases hp : p a = true
    · simp [List.filter, hp, ih']
    · have hp' : p a = false := by simpa using hp
      simp [List.filter, hp', h a (by simp) hp', ih']

theorem parseDump_real_lines (fmt : Text) (hf : fmt.head? = some chA ∨ fmt.head? = some chD) (text : List Text) :
    parseDump fmt text = parseDump fmt ((text.map rstripNL).filter fun t => !isNoise t) := by
  unfold parseDump
  rw [← flatMap_filter_of_nil (parseLine fmt) (fun t => !isNoise t) (text.map rstripNL), List.flatMap_map]
  · congr 1; funext t; exact (parseLine_rstrip fmt t).symm
  · intro x hx hn
    obtain ⟨t, _, rfl⟩ := List.mem_map.mp hx
    refine parseLine_noise fmt _ hf ?_
    rw [show rstripNL (rstripNL t) = rstripNL t from rstripChar_idem 10 t]
    simpa using hn

theorem bmcLine_real (pad : Bool) (off : Nat) (ck : Bytes) (hne : ck ≠ []) :
    rstripNL (bmcLine pad off ck) = bmcLine pad off ck ∧ isNoise (bmcLine pad off ck) = false :=
  ⟨bmcLine_rstrip pad off ck hne, by
    obtain ⟨c, t, e⟩ := List.exists_cons_of_length_pos (l := hexFix 4 off) (by simp)
    have hc := hexFix_all_hex 4 off c (by simp [e])
    cases pad <;> simp [bmcLine, e, isNoise, hc]⟩

theorem renderBmc_real (pad : Bool) (b : Bytes) : ∀ t ∈ renderBmc pad b, rstripNL t = t ∧ isNoise t = false := by
  intro t ht
  rw [renderBmc, renderBmcFrom_eq, List.mem_map] at ht
  obtain ⟨p, hp, rfl⟩ := ht
  exact bmcLine_real pad p.1 p.2 (mem_chunks (by omega) hp).1

theorem filter_real_lines (ls : List Text) (h : ∀ t ∈ ls, rstripNL t = t ∧ isNoise t = false) :
    (ls.map rstripNL).filter (fun t => !isNoise t) = ls := by
  rw [List.map_congr_left (fun t ht => (h t ht).1), List.map_id', List.filter_eq_self]
  intro t ht
  simp [(h t ht).2]

theorem filter_noise_lines (ls : List Text) (h : ∀ t ∈ ls, isNoise (rstripNL t) = true) :
    (ls.map rstripNL).filter (fun t => !isNoise t) = [] := by
  rw [List.filter_eq_nil_iff]
  intro t ht
  obtain ⟨u, hu, rfl⟩ := List.mem_map.1 ht
  simp [h u hu]

end Pel
