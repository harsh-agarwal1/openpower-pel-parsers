import PelModel.JsonSpec
import PelProofs.Basic
/- The printed JSON text as a text: the shapes of an escaped character, which characters `renderStr`, `intDec` and
   `aText` consist of, how a printed value begins and ends.  Shared by the parser side (JsonParse), the aligner side
   (JsonAlign) and the sections that carry such text as a payload (UserData, HwDiags). -/
namespace Pel

/-- JSON's two-character escapes: (code point, the character after the backslash) -/
def escShort : List (Nat × Nat) := [(34, 34), (92, 92), (10, 110), (13, 114), (9, 116), (12, 102), (8, 98)]

theorem escChar_shape (c : Nat) :
    (∃ e, (c, e) ∈ escShort ∧ escChar c = [92, e]) ∨
    (32 ≤ c ∧ c ≤ 126 ∧ c ≠ 34 ∧ c ≠ 92 ∧ escChar c = [c]) ∨
    (c < 65536 ∧ escChar c = 92 :: 117 :: hex4L c) ∨
    (65536 ≤ c ∧ escChar c = 92 :: 117 :: hex4L (55296 + (c - 65536) / 1024)
        ++ 92 :: 117 :: hex4L (56320 + (c - 65536) % 1024)) := by
  fun_cases escChar c
  case case8 h => exact .inr (.inl ⟨h.1, h.2, ‹_›, ‹_›, rfl⟩)
  case case9 h => exact .inr (.inr (.inl ⟨h, rfl⟩))
  case case10 h => exact .inr (.inr (.inr ⟨by omega, rfl⟩))
  all_goals subst c; exact .inl ⟨_, by decide, rfl⟩

theorem escShort_ne_u : ∀ p ∈ escShort, p.2 ≠ 117 := by decide

/-! ### the characters of printed text: printable ASCII, and newlines between the lines of a container -/

theorem hexL_printable (x : Nat) : 32 ≤ hexL x ∧ hexL x ≤ 126 := by unfold hexL; split <;> omega

theorem hex4L_printable (c : Nat) : ∀ x ∈ hex4L c, 32 ≤ x ∧ x ≤ 126 := by
  simp only [hex4L, List.forall_mem_cons, hexL_printable, List.not_mem_nil, false_imp_iff, implies_true, and_true]

theorem escShort_printable : ∀ p ∈ escShort, 32 ≤ p.2 ∧ p.2 ≤ 126 := by decide

theorem escChar_printable (c : Nat) : ∀ x ∈ escChar c, 32 ≤ x ∧ x ≤ 126 := by
  rcases escChar_shape c with ⟨e, he, hs⟩ | ⟨h1, h2, _, _, hs⟩ | ⟨_, hs⟩ | ⟨_, hs⟩ <;> rw [hs] <;>
    simp only [List.forall_mem_cons, List.forall_mem_append, List.not_mem_nil, false_imp_iff, implies_true, and_true]
  · exact ⟨by omega, escShort_printable _ he⟩
  · omega
  · exact ⟨by omega, by omega, hex4L_printable _⟩
  · exact ⟨⟨by omega, by omega, hex4L_printable _⟩, by omega, by omega, hex4L_printable _⟩

theorem renderStr_printable (t : Text) : ∀ x ∈ renderStr t, 32 ≤ x ∧ x ≤ 126 := by
  simp only [renderStr, List.forall_mem_append, List.forall_mem_singleton, List.forall_mem_flatMap]
  exact ⟨⟨by omega, fun c _ => escChar_printable c⟩, by omega⟩

theorem intDec_printable (z : Int) : ∀ c ∈ intDec z, 32 ≤ c ∧ c ≤ 126 := by
  have h := fun v c hc => natDec_digits v c hc
  cases z with
  | ofNat k => intro c hc; have := h k c hc; omega
  | negSucc k =>
    simp only [intDec, List.forall_mem_cons]
    exact ⟨by omega, fun c hc => by have := h _ c hc; omega⟩

theorem spaces_printable (k : Nat) : ∀ c ∈ spaces k, 32 ≤ c ∧ c ≤ 126 := by
  simp only [spaces, List.forall_mem_replicate]; omega

theorem alignGap_printable (n lvl : Nat) (k : Text) (v : J) : ∀ c ∈ alignGap n lvl k v, 32 ≤ c ∧ c ≤ 126 := by
  unfold alignGap; split
  · simp
  · exact spaces_printable _

theorem s_null : s "null" = [110, 117, 108, 108] := s_ofList _
theorem s_true : s "true" = [116, 114, 117, 101] := s_ofList _
theorem s_false : s "false" = [102, 97, 108, 115, 101] := s_ofList _
theorem s_arr : s "[]" = [91, 93] := s_ofList _
theorem s_obj : s "{}" = [123, 125] := s_ofList _
theorem s_lbracket : s "[" = [91] := s_ofList _
theorem s_rbracket : s "]" = [93] := s_ofList _
theorem s_lbrace : s "{" = [123] := s_ofList _
theorem s_rbrace : s "}" = [125] := s_ofList _
theorem s_colon : s ": " = [58, 32] := s_ofList _

theorem firstLineOf_printable (d : J) : ∀ c ∈ firstLineOf d, 32 ≤ c ∧ c ≤ 126 := by
  cases d with
  | null => rw [firstLineOf, s_null]; decide
  | bool b => cases b <;> simp only [firstLineOf, s_true, s_false] <;> decide
  | num z => exact intDec_printable z
  | str t => exact renderStr_printable t
  | arr l => cases l <;> simp only [firstLineOf, s_arr, s_lbracket] <;> decide
  | obj l => cases l <;> simp only [firstLineOf, s_obj, s_lbrace] <;> decide

theorem printable_orNL {t : Text} (h : ∀ c ∈ t, 32 ≤ c ∧ c ≤ 126) : ∀ c ∈ t, c = 10 ∨ (32 ≤ c ∧ c ≤ 126) :=
  fun c hc => .inr (h c hc)

/-- what follows an item or a member inside its container: nothing after the last, `,` and a newline before the next -/
theorem aItems_cons (n : Nat) (x : J) (r : List J) (lvl : Nat) :
    aItems n (x :: r) lvl = indentOf lvl ++ aText n x lvl ++ (if r = [] then [] else 44 :: 10 :: aItems n r lvl) := by
  cases r <;> simp [aItems]

theorem aMembers_cons (n : Nat) (k : Text) (v : J) (r : List (Text × J)) (lvl : Nat) :
    aMembers n ((k, v) :: r) lvl = indentOf lvl ++ renderStr k ++ [58] ++ alignGap n lvl k v ++ [32] ++ aText n v lvl ++
      (if r = [] then [] else 44 :: 10 :: aMembers n r lvl) := by
  cases r <;> simp [aMembers]

mutual
  theorem aText_chars (n : Nat) : ∀ (d : J) (lvl : Nat), ∀ c ∈ aText n d lvl, c = 10 ∨ (32 ≤ c ∧ c ≤ 126)
    | .arr (x :: xs), lvl => by
      simp only [aText, List.forall_mem_append, List.forall_mem_cons, List.not_mem_nil, false_imp_iff, implies_true, and_true]
      exact ⟨⟨⟨⟨⟨by decide, by decide⟩, aItems_chars n (x :: xs) (lvl + 1)⟩, by decide⟩, printable_orNL (spaces_printable _)⟩, by decide⟩
    | .obj (kv :: kvs), lvl => by
      simp only [aText, List.forall_mem_append, List.forall_mem_cons, List.not_mem_nil, false_imp_iff, implies_true, and_true]
      exact ⟨⟨⟨⟨⟨by decide, by decide⟩, aMembers_chars n (kv :: kvs) (lvl + 1)⟩, by decide⟩, printable_orNL (spaces_printable _)⟩, by decide⟩
    | .null, _ => printable_orNL (firstLineOf_printable .null)
    | .bool true, _ => printable_orNL (firstLineOf_printable (.bool true))
    | .bool false, _ => printable_orNL (firstLineOf_printable (.bool false))
    | .num k, _ => printable_orNL (firstLineOf_printable (.num k))
    | .str t, _ => printable_orNL (firstLineOf_printable (.str t))
    | .arr [], _ => printable_orNL (firstLineOf_printable (.arr []))
    | .obj [], _ => printable_orNL (firstLineOf_printable (.obj []))
  theorem aItems_chars (n : Nat) : ∀ (l : List J) (lvl : Nat), ∀ c ∈ aItems n l lvl, c = 10 ∨ (32 ≤ c ∧ c ≤ 126)
    | [], _ => by simp [aItems]
    | x :: r, lvl => by
      simp only [aItems_cons, List.forall_mem_append]
      refine ⟨⟨printable_orNL (spaces_printable _), aText_chars n x lvl⟩, ?_⟩
      split
      · simp
      · simp only [List.forall_mem_cons]
        exact ⟨by decide, by decide, aItems_chars n r lvl⟩
  theorem aMembers_chars (n : Nat) : ∀ (l : List (Text × J)) (lvl : Nat),
      ∀ c ∈ aMembers n l lvl, c = 10 ∨ (32 ≤ c ∧ c ≤ 126)
    | [], _ => by simp [aMembers]
    | (k, v) :: r, lvl => by
      simp only [aMembers_cons, List.forall_mem_append, List.forall_mem_singleton]
      refine ⟨⟨⟨⟨⟨⟨printable_orNL (spaces_printable _), printable_orNL (renderStr_printable k)⟩, by decide⟩,
        printable_orNL (alignGap_printable n lvl k v)⟩, by decide⟩, aText_chars n v lvl⟩, ?_⟩
      split
      · simp
      · simp only [List.forall_mem_cons]
        exact ⟨by decide, by decide, aMembers_chars n r lvl⟩
end

theorem ascii_of_chars {t : Text} (h : ∀ c ∈ t, c = 10 ∨ (32 ≤ c ∧ c ≤ 126)) : ∀ c ∈ t, 1 ≤ c ∧ c < 128 :=
  fun c hc => by have := h c hc; omega

theorem aText_lt128 (n : Nat) (d : J) (lvl : Nat) : ∀ c ∈ aText n d lvl, c < 128 :=
  fun c hc => (ascii_of_chars (aText_chars n d lvl) c hc).2

/-! ### decimal numbers -/

theorem intDec_head (k : Int) : ∃ c r, intDec k = c :: r ∧
    ((48 ≤ c ∧ c ≤ 57) ∨ (c = 45 ∧ ∃ d r', r = d :: r' ∧ 48 ≤ d ∧ d ≤ 57)) := by
  cases k with
  | ofNat v =>
    obtain ⟨d, dr, e, hd, _⟩ := natDec_shape v
    exact ⟨d, dr, by simp only [intDec, e], Or.inl hd⟩
  | negSucc v =>
    obtain ⟨d, dr, e, hd, _⟩ := natDec_shape (v + 1)
    exact ⟨45, d :: dr, by simp only [intDec, e], Or.inr ⟨rfl, d, dr, rfl, hd⟩⟩

theorem intDec_last (k : Int) : ∃ r c, intDec k = r ++ [c] ∧ 48 ≤ c ∧ c ≤ 57 := by
  cases k with
  | ofNat v => exact natDec_last v
  | negSucc v =>
    obtain ⟨r, c, e, hc⟩ := natDec_last (v + 1)
    exact ⟨45 :: r, c, by simp only [intDec, e, List.cons_append], hc⟩

/-! ### first and last character of a printed value -/

/-- `c ≠ 93`: after `[` the parser first looks for `]`, the empty list (`parseValue_arr`) -/
theorem aText_head (n : Nat) (d : J) (lvl : Nat) : ∃ c r, aText n d lvl = c :: r ∧ 33 ≤ c ∧ c ≤ 126 ∧ c ≠ 93 := by
  cases d with
  | null => exact ⟨110, _, by rw [aText, s_null], by omega⟩
  | bool b =>
    cases b
    · exact ⟨102, _, by rw [aText, s_false], by omega⟩
    · exact ⟨116, _, by rw [aText, s_true], by omega⟩
  | num k =>
    obtain ⟨c, r, e, hc⟩ := intDec_head k
    exact ⟨c, r, by rw [aText, e], by omega⟩
  | str t => exact ⟨34, _, by rw [aText, renderStr]; rfl, by omega⟩
  | arr l =>
    cases l with
    | nil => exact ⟨91, _, by rw [aText, s_arr], by omega⟩
    | cons x xs => exact ⟨91, _, by rw [aText]; rfl, by omega⟩
  | obj l =>
    cases l with
    | nil => exact ⟨123, _, by rw [aText, s_obj], by omega⟩
    | cons x xs => exact ⟨123, _, by rw [aText]; rfl, by omega⟩

theorem aText_last (n : Nat) (d : J) (lvl : Nat) : ∃ r c, aText n d lvl = r ++ [c] ∧ 33 ≤ c ∧ c ≤ 126 := by
  cases d with
  | null => exact ⟨[110, 117, 108], 108, by rw [aText, s_null]; rfl, by omega⟩
  | bool b =>
    cases b
    · exact ⟨[102, 97, 108, 115], 101, by rw [aText, s_false]; rfl, by omega⟩
    · exact ⟨[116, 114, 117], 101, by rw [aText, s_true]; rfl, by omega⟩
  | num k =>
    obtain ⟨r, c, e, hc⟩ := intDec_last k
    exact ⟨r, c, by rw [aText, e], by omega⟩
  | str t => exact ⟨_, 34, by rw [aText, renderStr], by omega⟩
  | arr l =>
    cases l with
    | nil => exact ⟨[91], 93, by rw [aText, s_arr]; rfl, by omega⟩
    | cons x xs => exact ⟨_, 93, by rw [aText], by omega⟩
  | obj l =>
    cases l with
    | nil => exact ⟨[123], 125, by rw [aText, s_obj]; rfl, by omega⟩
    | cons x xs => exact ⟨_, 125, by rw [aText], by omega⟩

theorem isPySpace_visible (c : Nat) (h : 33 ≤ c ∧ c ≤ 126) : isPySpace c = false := by
  simp [isPySpace]; omega

theorem isJsonWs_visible (c : Nat) (h : 33 ≤ c ∧ c ≤ 126) : isJsonWs c = false := by
  simp [isJsonWs]; omega

end Pel
