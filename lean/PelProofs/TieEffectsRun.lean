import PelGen.GenEffects
import PelProofs.TieEffects
/-
  The two regenerated functions of stream `effects` that decode one file (`parseAndPrintPELFile`, `parseAndWriteOutput`), run ONCE:
  outcome and log as an explicit function of the fault plan and of the log they start from.  The theorems of PelProps/TieC11.lean and
  TieC12.lean about them (trace, diagnostics, removal, `fileBranch`, `jsonMode`) are read off these two equations and never look at
  the generated term.  Each proof splits on what the run can depend on (what the file decodes to, `config.hex`, which steps fault)
  and lets `simp` execute the term under those facts, whatever its shape.  The messages are compared as code points (`s` is
  unfolded): the one form that is the same however the source cuts a message into literals.
-/
set_option linter.unusedSimpArgs false
namespace Pel.Eff

/-- the diagnostic of `parseAndPrintPELFile` -/
def printMsg (y : Sys) (path : Text) (e : Exc) : Text := s "Exception: No PEL parsed for " ++ path ++ s ": " ++ y.excStr e

/-- what `parseAndPrintPELFile` prints for a document -/
def shown (c : CliOpts) (data : Bytes) (j : J) : Text :=
  if c.hex then linesOut (pelHexDisplay data) else prettyPrint 34 (dumps j) ++ nl

theorem printOne_doc {env : Env} {o : CliOpts} {cfg : SelCfg} {f : FileEntry} {eid : Text} {j : J}
    (h : parsePEL env cfg f.data = .doc eid j) : printOne env o cfg f = (shown o f.data j, 0) := by
  simp only [printOne, fullOf, h, shown]

theorem parseAndPrintPELFile_run (g : Sys → Text → CliOpts → Bool → M Bool) (h : Gen.parseAndPrintPELFile? = some g)
    (y : Sys) (path : Text) (c : CliOpts) (eoe : Bool) (fault : Nat → Bool) (st : St) :
    g y path c eoe fault st =
      match y.read path with
      | none => (.ok false, st.diag (printMsg y path .noFile))
      | some data =>
        match parsePEL y.env c.cfg data with
        | .doc _ j =>
          if fault st.k then (.ok false, (st.fail .print).diag (printMsg y path (.osError .print)))
          else if fault (st.k + 1) then
            (.ok false, (((st.ok .print).out (shown c data j)).fail .flushStdout).diag (printMsg y path (.osError .flushStdout)))
          else (.ok true, ((st.ok .print).out (shown c data j)).ok .flushStdout)
        | .filtered => (.ok false, st)
        | .badHeader => if eoe then (.error (.exit 1), st) else (.ok false, st)
        | .error e => (.ok false, st.diag (printMsg y path (.decode e))) := by
  cases h <;> (
    simp only [runFn, thenF, tryExcept, withOpenR, fdRead, run_bind, run_pure, pyParsePEL, printOut_eq, printHex_eq, flushStdout]
    cases hr : y.read path with
    | none => simp [printMsg, s]
    | some data =>
      simp only []
      cases parsePEL y.env c.cfg data with
      | doc eid j =>
        have hj := prettyPrint_dumps_isEmpty 34 j
        have hl := prettyPrint_dumps_length 34 j
        have hl' := prettyPrint_dumps_length_eq 34 j
        cases hh : c.hex <;> cases h0 : fault st.k <;> cases h1 : fault (st.k + 1) <;>
          simp [hj, hl, hl', hh, h0, h1, step_ok, step_fail, printMsg, shown, s]
      | filtered => simp
      | badHeader => cases eoe <;> simp
      | error e => simp [printMsg, s])

/-- the diagnostic of `parseAndWriteOutput` for a caught exception -/
def writeMsg (y : Sys) (file : Text) (e : Exc) : Text := s "No PEL parsed for " ++ file ++ s ": " ++ y.excStr e

theorem parseAndWriteOutput_run (g : Sys → Text → Text → CliOpts → Bool → M Unit) (h : Gen.parseAndWriteOutput? = some g)
    (y : Sys) (file out : Text) (c : CliOpts) (clean : Bool) (fault : Nat → Bool) (st : St) (data : Bytes)
    (hr : y.read file = some data) :
    g y file out c clean fault st =
      (.ok (), match parsePEL y.env c.cfg data with
      | .doc eid j =>
        let t := prettyPrint 34 (dumps j)
        let caught (e : Exc) (st' : St) : St := st'.diag (writeMsg y file e)
        if fault st.k then caught (.osError .openOut) (st.fail .openOut)
        else
          let st1 := (st.ok .openOut).opened (pathJoin out (basename file ++ [46] ++ eid ++ s ".json"))
          if allOk fault (st.k + 1) t.length then
            if fault (st.k + 1 + t.length) then caught (.osError .closeOut) ((st1.wrote t).fail .closeOut)
            else if clean then
              if fault (st.k + 1 + t.length + 1) then caught (.osError .removeIn) (((st1.wrote t).ok .closeOut).fail .removeIn)
              else (((st1.wrote t).ok .closeOut).ok .removeIn).rm file none
            else (st1.wrote t).ok .closeOut
          else
            caught (if fault (St.writeFail fault t st1).k then .osError .closeOut else .osError .write)
              ((St.writeFail fault t st1).unwound fault)
      | .error e => st.diag (writeMsg y file (.decode e))
      | _ => st.diag (s "No PEL parsed for " ++ file)) := by
  cases h <;> (
    simp only [runFn, thenF, tryExcept, withOpenR, hr, fdRead, run_bind, run_pure, pyParsePEL, osRemove_eq]
    cases parsePEL y.env c.cfg data with
    | doc eid j =>
      simp only [run_pure, prettyPrint_dumps_length, prettyPrint_dumps_length_eq, prettyPrint_dumps_isEmpty, Bool.not_false, if_true]
      generalize prettyPrint 34 (dumps j) = t
      cases h0 : fault st.k with
      | true => simp [h0, writeMsg, s]
      | false =>
        cases hw : allOk fault (st.k + 1) t.length with
        | false => simp [h0, hw, writelinesStr_fail, writeMsg, s]
        | true =>
          cases hc : fault (st.k + 1 + t.length) with
          | true => simp [h0, hw, hc, writelinesStr_ok, writeMsg, s]
          | false =>
            cases clean with
            | false => simp [h0, hw, hc, writelinesStr_ok, writeMsg, s]
            | true =>
              cases hm : fault (st.k + 1 + t.length + 1) <;>
              simp [step_ok, step_fail, h0, hw, hc, hm, writelinesStr_ok, writeMsg, s]
    | filtered => simp [s]
    | badHeader => simp [s]
    | error e => simp [writeMsg, s])

end Pel.Eff
