import PelModel.TransOe500
import PelProofs.HwDiags
import PelProofs.TieIoDrawer
/-
  Lemmas for the source tie of the hardware-diagnostics parser modules (PelProps/TieC20.lean, second half;
  generated side: lean/PelGen/GenOe500.lean, vocabulary: lean/PelModel/TransOe500.lean).

  * equations between readers that hold on the inputs satisfying `P` (`EqOn`; `Keeps` carries `P` past a read).  `P` is either
    `fun _ => True` (plain equality) or `allBytes` (every element of the input is a byte: then `get_int(n)` is below `256^n`
    and the range assertions of `ParserData` hold).  Congruence rules for `>>=` that hand the continuation what a read
    guarantees (length of `get_mem(n)`, bound of `get_int(n)`), both read off `EqOn.bind_getMem_at`.
  * loops: `forRangeRd 0 n` over a body that does not look at the counter is `rdRepeat` + a fold of the results
    (`forRange_fold`; with the count read in front and the result returned behind, `counted_fold`).
  * the model side: `readSigs` / `readRegs` / `readChips` are `rdRepeat` of one step (`readSigs_eq` … in PelProofs/HwDiags.lean);
    `oe500Ud` in the `Oe.out` form, which needs `NoUnsup` of every reader it runs.
-/
namespace Pel.Oe

theorem run_pure {α} (a : α) (st : Bytes) : (pure a : Rd α) st = .ok (a, st) := rfl

/-- the two readers answer alike on every input that satisfies `P` -/
def EqOn {α} (P : Bytes → Prop) (p q : Rd α) : Prop := ∀ st, P st → p st = q st
/-- what `r` leaves of an input that satisfies `P` satisfies `P` again -/
def Keeps {α} (P : Bytes → Prop) (r : Rd α) : Prop := ∀ st x st', P st → r st = .ok (x, st') → P st'
/-- `P` passes from an input to what is left when elements are taken off its front -/
def Suffix (P : Bytes → Prop) : Prop := ∀ st n, P st → P (st.drop n)

theorem suffix_true : Suffix (fun _ => True) := fun _ _ _ => trivial
theorem suffix_allBytes : Suffix (fun st => allBytes st = true) := by
  intro st n h
  simp only [allBytes, List.all_eq_true] at *
  intro x hx
  exact h x (List.mem_of_mem_drop hx)

theorem EqOn.refl {α} {P : Bytes → Prop} {p : Rd α} : EqOn P p p := fun _ _ => Eq.refl _
theorem EqOn.of_eq {α} {P : Bytes → Prop} {p q : Rd α} (h : p = q) : EqOn P p q := h ▸ EqOn.refl
theorem EqOn.symm {α} {P : Bytes → Prop} {p q : Rd α} (h : EqOn P p q) : EqOn P q p := fun st hs => (h st hs).symm
theorem EqOn.trans {α} {P : Bytes → Prop} {p q r : Rd α} (h1 : EqOn P p q) (h2 : EqOn P q r) : EqOn P p r :=
  fun st hs => (h1 st hs).trans (h2 st hs)
theorem EqOn.eq {α} {p q : Rd α} (h : EqOn (fun _ => True) p q) : p = q := funext fun st => h st trivial

theorem EqOn.bind {α β} {P : Bytes → Prop} {p q : Rd α} {f g : α → Rd β}
    (hp : EqOn P p q) (hk : Keeps P q) (hf : ∀ x, EqOn P (f x) (g x)) : EqOn P (p >>= f) (q >>= g) := by
  intro st hs
  rw [stateT_bind_run, stateT_bind_run, hp st hs]
  cases h : q st with
  | error e => rfl
  | ok r => obtain ⟨a, st'⟩ := r; exact hf a st' (hk st a st' hs h)

theorem keeps_true {α} (r : Rd α) : Keeps (fun _ => True) r := fun _ _ _ _ _ => trivial

theorem Keeps.pure {α} {P : Bytes → Prop} (a : α) : Keeps P (pure a : Rd α) := by
  intro st x st' hs h
  cases h; exact hs

theorem Keeps.rdOfOption {α} {P : Bytes → Prop} (o : Option α) : Keeps P (rdOfOption o) := by
  cases o with
  | none => intro st x st' hs h; cases h
  | some a => exact Keeps.pure a

theorem Keeps.bind {α β} {P : Bytes → Prop} {r : Rd α} {f : α → Rd β} (hr : Keeps P r) (hf : ∀ a, Keeps P (f a)) :
    Keeps P (r >>= f) := by
  intro st x st' hs h
  obtain ⟨a, st1, h1, h2⟩ := bind_ok_inv h
  exact hf a st1 x st' (hr st a st1 hs h1) h2

theorem getMem_ok (n : Nat) (st a st' : Bytes) (h : getMem n st = .ok (a, st')) :
    a = st.take n ∧ st' = st.drop n ∧ 0 < n ∧ n ≤ st.length := by
  obtain ⟨rfl, rfl, hn⟩ := getMem_split h
  exact ⟨List.take_left.symm, List.drop_left.symm, hn, List.length_append ▸ Nat.le_add_right ..⟩

theorem Keeps.getMem {P : Bytes → Prop} (hP : Suffix P) (n : Nat) : Keeps P (getMem n) := by
  intro st a st' hs h
  obtain ⟨_, rfl, _, _⟩ := getMem_ok n st a st' h
  exact hP st n hs

theorem Keeps.getInt {P : Bytes → Prop} (hP : Suffix P) (n : Nat) : Keeps P (getInt n) :=
  Keeps.bind (Keeps.getMem hP n) (fun _ => Keeps.pure _)

theorem Keeps.rdRepeat {α} {P : Bytes → Prop} {r : Rd α} (hr : Keeps P r) : ∀ n, Keeps P (rdRepeat r n)
  | 0 => Keeps.pure _
  | n+1 => Keeps.bind hr (fun _ => Keeps.bind (Keeps.rdRepeat hr n) (fun _ => Keeps.pure _))

/-- the continuation of `get_mem(n)` is only ever entered with the first `n` elements of a state that satisfies `P` -/
theorem EqOn.bind_getMem_at {β} {P : Bytes → Prop} (hP : Suffix P) (n : Nat) {f g : Bytes → Rd β}
    (hf : ∀ st, P st → n ≤ st.length → EqOn P (f (st.take n)) (g (st.take n))) : EqOn P (getMem n >>= f) (getMem n >>= g) := by
  intro st hs
  rw [stateT_bind_run, stateT_bind_run]
  cases h : getMem n st with
  | error e => rfl
  | ok r =>
    obtain ⟨a, st'⟩ := r
    obtain ⟨rfl, rfl, _, hn⟩ := getMem_ok n st a st' h
    exact hf st hs hn _ (hP st n hs)

theorem EqOn.bind_getMem {β} {P : Bytes → Prop} (hP : Suffix P) (n : Nat) {f g : Bytes → Rd β}
    (hf : ∀ a, a.length = n → EqOn P (f a) (g a)) : EqOn P (getMem n >>= f) (getMem n >>= g) :=
  EqOn.bind_getMem_at hP n fun _ _ hn => hf _ (List.length_take_of_le hn)

/-- what `get_int(n)` hands on is below `256^n` when the input consists of bytes -/
theorem EqOn.bind_getInt {β} (n : Nat) {f g : Nat → Rd β}
    (hf : ∀ v, v < 256 ^ n → EqOn (fun st => allBytes st = true) (f v) (g v)) :
    EqOn (fun st => allBytes st = true) (getInt n >>= f) (getInt n >>= g) := by
  simp only [getInt, bind_assoc, pure_bind]
  refine EqOn.bind_getMem_at suffix_allBytes n fun st hs hn => hf _ ?_
  have := fromBE_lt (st.take n) fun x hx => of_decide_eq_true (List.all_eq_true.mp hs x (List.mem_of_mem_take hx))
  rwa [List.length_take_of_le hn] at this

theorem foldl_snoc_map {α β} (f : α → β) (l : List α) (acc : List β) : l.foldl (fun st i => st ++ [f i]) acc = acc ++ l.map f := by
  induction l generalizing acc with
  | nil => simp
  | cons x l ih => simp [ih]

theorem foldl_snoc {α} (xs acc : List α) : xs.foldl (fun a x => a ++ [x]) acc = acc ++ xs := by
  simpa using foldl_snoc_map id xs acc

theorem foldl_append_flatten {α} (xss : List (List α)) (acc : List α) : xss.foldl (fun a xs => a ++ xs) acc = acc ++ xss.flatten := by
  induction xss generalizing acc with
  | nil => simp
  | cons x xs ih => simp [ih]

/-- a counted loop whose body does not look at the counter: the per-iteration reader `r`, run once per element, and the
    results folded into the state -/
theorem forRange_fold {α β} {P : Bytes → Prop} (r : Rd β) (hr : Keeps P r) (g : α → β → α) (B : Nat → α → Rd α)
    (hB : ∀ i acc, EqOn P (B i acc) (r >>= fun x => pure (g acc x))) (n : Nat) (acc : α) :
    EqOn P (forRangeRd 0 n B acc) (rdRepeat r n >>= fun xs => pure (xs.foldl g acc)) := by
  have key : ∀ (l : List Nat) (acc : α),
      EqOn P (l.foldlM (fun a i => B i a) acc) (rdRepeat r l.length >>= fun xs => pure (xs.foldl g acc)) := by
    intro l
    induction l with
    | nil => intro acc; exact EqOn.of_eq (by simp [rdRepeat])
    | cons i l ih =>
      intro acc
      have e1 : (i :: l).foldlM (fun a i => B i a) acc = B i acc >>= fun a' => l.foldlM (fun a i => B i a) a' := by
        simp [List.foldlM_cons]
      have e2 : (rdRepeat r (i :: l).length >>= fun xs => pure (xs.foldl g acc) : Rd α)
          = (r >>= fun x => pure (g acc x)) >>= fun a' => (rdRepeat r l.length >>= fun xs => pure (xs.foldl g a')) := by
        simp [rdRepeat, List.length_cons]
      rw [e1, e2]
      exact EqOn.bind (hB i acc) (Keeps.bind hr (fun _ => Keeps.pure _)) (fun a' => ih a')
  simpa [forRangeRd, List.length_range] using key (List.range n) acc

/-! ### `Oe.out` -/

theorem out_tail (p : PluginOut) : out (tail p) = p := by cases p <;> rfl

theorem out_ite (c : Prop) [Decidable c] (a b : Rd J) : out (if c then a else b) = if c then out a else out b := by
  split <;> rfl

theorem open_bind {α} (data st : Bytes) (r : Rd α) : (Oe.open data >>= fun _ => r) st = r data := by
  rw [stateT_bind_run]; rfl

theorem out_open_congr {P : Bytes → Prop} (data : Bytes) (hd : P data) {p q : Rd J} (h : EqOn P p q) :
    out (Oe.open data >>= fun _ => p) = out (Oe.open data >>= fun _ => q) := by
  simp only [out, open_bind, h data hd]

/-- `r` never fails with `.unsupported`, the one error that `Oe.out` does not turn into `.raises` -/
def NoUnsup {α} (r : Rd α) : Prop := ∀ st, r st ≠ .error .unsupported

theorem NoUnsup.pure {α} (a : α) : NoUnsup (pure a : Rd α) := fun st h => by cases h
theorem NoUnsup.getMem (n : Nat) : NoUnsup (getMem n) := by
  intro st h
  unfold Pel.getMem at h
  split at h
  · cases h
  · split at h <;> cases h
theorem NoUnsup.bind {α β} {r : Rd α} {f : α → Rd β} (hr : NoUnsup r) (hf : ∀ a, NoUnsup (f a)) : NoUnsup (r >>= f) := by
  intro st h
  rw [stateT_bind_run] at h
  cases h1 : r st with
  | error e => rw [h1] at h; cases h; exact hr st h1
  | ok p => obtain ⟨a, st'⟩ := p; rw [h1] at h; exact hf a st' h
theorem NoUnsup.getInt (n : Nat) : NoUnsup (getInt n) := NoUnsup.bind (NoUnsup.getMem n) (fun _ => NoUnsup.pure _)
theorem NoUnsup.rdRepeat {α} {r : Rd α} (hr : NoUnsup r) : ∀ n, NoUnsup (rdRepeat r n)
  | 0 => NoUnsup.pure _
  | n+1 => NoUnsup.bind hr (fun _ => NoUnsup.bind (NoUnsup.rdRepeat hr n) (fun _ => NoUnsup.pure _))

/-- the way `oe500Ud` runs a reader on the section data (`run` in PelModel/HwDiags.lean), in the vocabulary of the generated side -/
theorem run_eq_out {α} (r : Rd α) (hr : NoUnsup r) (f : α → PluginOut) (data : Bytes) :
    (match r data with | .ok (x, _) => f x | .error _ => PluginOut.raises) = out (Oe.open data >>= fun _ => r >>= fun x => tail (f x)) := by
  unfold out
  rw [open_bind, stateT_bind_run]
  cases h : r data with
  | error e =>
    cases e
    case unsupported => exact absurd h (hr data)
    all_goals rfl
  | ok p =>
    obtain ⟨x, st'⟩ := p
    show f x = _
    cases hf : f x <;> simp only [tail, hf] <;> rfl

/-! ### the steps of the model's readers never answer `.unsupported` and keep `P` -/

theorem NoUnsup.sigStep (cd : List ChipData) : NoUnsup (sigStep cd) :=
  NoUnsup.bind (NoUnsup.getMem 4) fun _ => NoUnsup.bind (NoUnsup.getMem 4) fun _ => NoUnsup.bind (NoUnsup.getMem 4) fun _ => NoUnsup.pure _
theorem NoUnsup.regStep (cd : List ChipData) (ec : Text) : NoUnsup (regStep cd ec) :=
  NoUnsup.bind (NoUnsup.getMem 3) fun _ => NoUnsup.bind (NoUnsup.getInt 1) fun _ => NoUnsup.bind (NoUnsup.getInt 1) fun _ =>
    NoUnsup.bind (NoUnsup.getMem _) fun _ => NoUnsup.pure _
theorem NoUnsup.chipStep (cd : List ChipData) : NoUnsup (chipStep cd) :=
  NoUnsup.bind (NoUnsup.getMem 4) fun _ => NoUnsup.bind (NoUnsup.getInt 2) fun _ => NoUnsup.bind (NoUnsup.getInt 1) fun _ =>
    NoUnsup.bind (NoUnsup.getInt 4) fun _ => NoUnsup.bind (NoUnsup.rdRepeat (NoUnsup.regStep cd _) _) fun _ => NoUnsup.pure _

theorem Keeps.regStep {P : Bytes → Prop} (hP : Suffix P) (cd : List ChipData) (ec : Text) : Keeps P (regStep cd ec) :=
  Keeps.bind (Keeps.getMem hP 3) fun _ => Keeps.bind (Keeps.getInt hP 1) fun _ => Keeps.bind (Keeps.getInt hP 1) fun _ =>
    Keeps.bind (Keeps.getMem hP _) fun _ => Keeps.pure _
theorem Keeps.chipStep {P : Bytes → Prop} (hP : Suffix P) (cd : List ChipData) : Keeps P (chipStep cd) :=
  Keeps.bind (Keeps.getMem hP 4) fun _ => Keeps.bind (Keeps.getInt hP 2) fun _ => Keeps.bind (Keeps.getInt hP 1) fun _ =>
    Keeps.bind (Keeps.getInt hP 4) fun _ => Keeps.bind (Keeps.rdRepeat (Keeps.regStep hP cd _) _) fun _ => Keeps.pure _

/-! ### `oe500Ud` in the `Oe.out` form -/

/-- what `oe500Ud` runs for each sub-type, as one reader in the vocabulary of the generated side: `DataStream(data)`, the reads, the
    result under its key; the default is `json.dumps(None)` -/
def udRd (cd : List ChipData) (data : Bytes) (sub : Nat) : Rd J :=
  if sub = 1 then
    Oe.open data >>= fun _ => getInt 4 >>= fun n => rdRepeat (sigStep cd) n >>= fun l => pure (J.obj [(s "Signature List", .arr l)])
  else if sub = 2 then
    Oe.open data >>= fun _ => getInt 4 >>= fun n => rdRepeat (chipStep cd) n >>= fun xss =>
      pure (J.obj [(s "Register Dump", .arr (xss.flatten.map .str))])
  else if sub = 3 then
    decodeUtf8 (rstripChar 0 data) >>= fun t => jsonLoads t >>= fun j => pure (J.obj [(s "Callout List FFDC", j)])
  else if sub = 4 then
    Oe.open data >>= fun _ => getMem 4 >>= fun a => getMem 4 >>= fun b => getMem 8 >>= fun c => getMem 8 >>= fun d =>
      pure (J.obj [(s "Hostboot Scratch Registers",
        .obj (objSet [(s "0x" ++ bytesHexL a, .str (s "0x" ++ bytesHexL b))] (s "0x" ++ bytesHexL c) (.str (s "0x" ++ bytesHexL d))))])
  else if sub = 5 then
    Oe.open data >>= fun _ => getMem 4 >>= fun a => getMem 4 >>= fun b =>
      pure (J.obj [(s "Scratch Register Error Signature",
        .obj [(s "Chip ID", .str (s "0x" ++ bytesHexL a)), (s "Signature ID", .str (s "0x" ++ bytesHexL b))])])
  else pure J.null

/-- The local `run` of `oe500Ud` turns every error into `.raises`; `out` keeps `.unsupported` apart, so each reader is shown never to
    answer that (`run_eq_out`).  Sub-type 3 has no reader in the model: its three outcomes are matched one by one. -/
theorem oe500Ud_out (cd : List ChipData) (sub : Nat) (data : Bytes) : oe500Ud cd sub data = out (udRd cd data sub) := by
  unfold udRd oe500Ud
  simp only [out_ite]
  -- the same cascade on both sides: one sub-type at a time
  refine ite_congr rfl (fun _ => ?_) fun _ => ite_congr rfl (fun _ => ?_) fun _ => ite_congr rfl (fun _ => ?_) fun _ =>
    ite_congr rfl (fun _ => ?_) fun _ => ite_congr rfl (fun _ => ?_) fun _ => rfl
  · simp only [readSigs_eq]
    refine (run_eq_out _ (NoUnsup.bind (NoUnsup.getInt 4) fun _ => NoUnsup.rdRepeat (NoUnsup.sigStep cd) _) _ data).trans ?_
    simp only [tail, bind_assoc]
  · simp only [readChips_eq]
    refine (run_eq_out _ (NoUnsup.bind (NoUnsup.getInt 4) fun _ => NoUnsup.bind (NoUnsup.rdRepeat (NoUnsup.chipStep cd) _) fun _ =>
      NoUnsup.pure _) _ data).trans ?_
    simp only [tail, bind_assoc, pure_bind]
  · unfold out decodeUtf8
    cases utf8Decode (rstripChar 0 data) with
    | none => rfl
    | some t =>
      simp only [pure_bind]
      unfold jsonLoads
      cases loads t <;> rfl
  · refine (run_eq_out _ (NoUnsup.bind (NoUnsup.getMem 4) fun _ => NoUnsup.bind (NoUnsup.getMem 4) fun _ => NoUnsup.bind (NoUnsup.getMem 8) fun _ =>
      NoUnsup.bind (NoUnsup.getMem 8) fun _ => NoUnsup.pure _) _ data).trans ?_
    simp only [tail, bind_assoc, pure_bind]
  · refine (run_eq_out _ (NoUnsup.bind (NoUnsup.getMem 4) fun _ => NoUnsup.bind (NoUnsup.getMem 4) fun _ => NoUnsup.pure _) _ data).trans ?_
    simp only [tail, bind_assoc, pure_bind]

/-! ### the assertions of `ParserData` hold on what the parser module passes -/

theorem checkHex_bytesHexL (a : Bytes) (n : Nat) (h : a.length = n) : IoSem.checkHex (bytesHexL a) n = true := by
  rw [IoSem.checkHex_iff]
  refine ⟨by rw [bytesHexL_length, h], ?_⟩
  intro c hc
  simp only [bytesHexL, List.mem_flatMap, List.mem_cons, List.not_mem_nil, or_false] at hc
  obtain ⟨x, _, hx | hx⟩ := hc <;> (rw [hx]; exact isHexDigit_hexL _)

theorem checkInt_of_lt (v n : Nat) (h : v < 256 ^ n) : IoSem.checkInt v n = true := by
  simp only [IoSem.checkInt, decide_eq_true_eq]
  have : (2 : Nat) ^ (8 * n) = 256 ^ n := by rw [Nat.pow_mul]
  omega

theorem getSignatureA_hex (cd : List ChipData) (a b c : Bytes) (ha : a.length = 4) (hb : b.length = 4) (hc : c.length = 4) :
    IoSem.getSignatureA cd (bytesHexL a) (bytesHexL b) (bytesHexL c) = some (getSignature cd (bytesHexL a) (bytesHexL b) (bytesHexL c)) := by
  simp [IoSem.getSignatureA, checkHex_bytesHexL _ 4 ha, checkHex_bytesHexL _ 4 hb, checkHex_bytesHexL _ 4 hc]

theorem chipDescA_hex (cd : List ChipData) (ec : Bytes) (node chip : Nat) (he : ec.length = 4) (hn : node < 256 ^ 1) (hc : chip < 256 ^ 2) :
    IoSem.chipDescA cd (bytesHexL ec) node chip = some (chipDesc cd (bytesHexL ec) node chip) := by
  simp [IoSem.chipDescA, checkHex_bytesHexL _ 4 he, checkInt_of_lt _ 1 hn, checkInt_of_lt _ 2 hc]

theorem regDataA_hex (cd : List ChipData) (ec rid : Bytes) (inst : Nat) (he : ec.length = 4) (hr : rid.length = 3) (hi : inst < 256 ^ 1) :
    IoSem.regDataA cd (bytesHexL ec) (bytesHexL rid) inst = some (regData cd (bytesHexL ec) (bytesHexL rid) inst) := by
  simp [IoSem.regDataA, checkHex_bytesHexL _ 4 he, checkHex_bytesHexL _ 3 hr, checkInt_of_lt _ 1 hi]

theorem rdOfOption_some {α} (a : α) : rdOfOption (some a) = pure a := rfl

/-! ### the chunks of the data column -/

/-- `chunks = []; for i in range(0, len(t), 4): chunks.append(t[i : i + 4])` -/
theorem forPure_chunks (t : Text) (B : Nat → List Text → List Text) (hB : ∀ i st, B i st = st ++ [IoSem.slice t i (i + 4)]) :
    forPure 0 t.length 4 B [] = chunk4 (t.length + 1) t := by
  have : (fun st i => B i st) = (fun st i => st ++ [IoSem.slice t i (i + 4)]) := by funext st i; exact hB i st
  rw [chunk4_eq_chunks _ t 0 (Nat.lt_succ_self _), forPure, this, foldl_snoc_map]
  -- both sides map over `range ((len + 3) / 4)`; `t[4j : 4j + 4]` is the `j`-th chunk
  simp [pyRange, map_chunks, IoSem.slice_eq]

/-! ### "count, loop, return"

Stated from the generated side to the `rdRepeat` form with the same `fin`, and used with `.trans`: every unknown of the left side is
then a pattern (`B n`, `fin l`), and what the key of the result is called is compared afterwards, in a goal of its own.  What one
round does to the loop variable is `g`: `fun acc x => acc ++ [x]` for `L.append(x)` (`foldl_snoc` then gives the list of results),
`fun acc xs => acc ++ xs` for a body that appends several lines (`foldl_append_flatten`). -/

theorem counted_fold {α β} {P : Bytes → Prop} (hP : Suffix P) (data : Bytes) (hd : P data) (w : Nat) (r : Rd β) (hr : Keeps P r)
    (g : α → β → α) (a0 : α) (B : Nat → Nat → α → Rd α) (hB : ∀ n i acc, EqOn P (B n i acc) (r >>= fun x => pure (g acc x)))
    (fin : α → J) :
    out (Oe.open data >>= fun _ => getInt w >>= fun n => forRangeRd 0 n (B n) a0 >>= fun l => pure (fin l))
      = out (Oe.open data >>= fun _ => getInt w >>= fun n => rdRepeat r n >>= fun xs => pure (fin (xs.foldl g a0))) := by
  refine out_open_congr data hd (EqOn.bind EqOn.refl (Keeps.getInt hP w) fun n => ?_)
  have h := EqOn.bind (forRange_fold r hr g (B n) (hB n) n a0) (Keeps.bind (Keeps.rdRepeat hr n) fun _ => Keeps.pure _)
    fun l => EqOn.refl (p := pure (fin l))
  simpa only [bind_assoc, pure_bind] using h

/-- the inner loop of the register dump: it appends one value per round to a list that already holds `acc'` -/
theorem inner_collect {β} {P : Bytes → Prop} (r : Rd β) (hr : Keeps P r) (B : Nat → List β → Rd (List β)) (n : Nat) (acc' : List β)
    (F : List β → List β) (hB : ∀ i acc, EqOn P (B i acc) (r >>= fun x => pure (acc ++ [x]))) (hF : ∀ xs, acc' ++ xs = F xs) :
    EqOn P (forRangeRd 0 n B acc') (rdRepeat r n >>= fun xs => pure (F xs)) := by
  have h1 := forRange_fold r hr (fun a x => a ++ [x]) B hB n acc'
  simp only [foldl_snoc, hF] at h1
  exact h1

/-! ### encodings consist of bytes -/

theorem allBytes_append (a b : Bytes) : allBytes (a ++ b) = (allBytes a && allBytes b) := by simp [allBytes]

theorem allBytes_toBE (n v : Nat) : allBytes (toBE n v) = true :=
  List.all_eq_true.mpr fun x hx => decide_eq_true (toBE_allBytes n v x hx)

theorem allBytes_flatMap {α} (l : List α) (f : α → Bytes) (h : ∀ x ∈ l, allBytes (f x) = true) : allBytes (l.flatMap f) = true := by
  induction l with
  | nil => rfl
  | cons x l ih =>
    simp only [List.flatMap_cons, allBytes_append, h x (by simp), ih (fun y hy => h y (by simp [hy])), Bool.and_self]

end Pel.Oe
