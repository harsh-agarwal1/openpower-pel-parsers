import PelProofs.FramesSection
import PelProofs.Numbering
/- From section-level framing to the whole PEL: the loop over the optional sections (`frames_sections`); the two mandatory headers,
   read once for every decoder (`withHeads`); and `frames_pel`, where the names under which `buildOutput` files the sections are those of
   `numberNames` (PelProofs/Numbering.lean). -/
namespace Pel

theorem decodeSections_succ (env : Env) (creator : Text) (n : Nat) :
    decodeSections env creator (n+1) =
      (decodeOne env creator >>= fun p => decodeSections env creator n >>= fun rest => pure (p :: rest)) := by
  simp only [decodeSections, decodeOne, bind_assoc, pure_bind]

theorem exceptAll_cons_ok {α} (a : Except Err α) (l : List (Except Err α)) (js : List α)
    (h : exceptAll (a :: l) = .ok js) : ∃ x js', a = .ok x ∧ exceptAll l = .ok js' ∧ js = x :: js' := by
  cases a with
  | error e => simp [exceptAll] at h
  | ok x =>
    simp only [exceptAll] at h
    split at h
    · rename_i l' hl
      refine ⟨x, l', rfl, hl, ?_⟩
      cases h; rfl
    · cases h

theorem exceptAll_length {α} (l : List (Except Err α)) (js : List α) (h : exceptAll l = .ok js) : js.length = l.length := by
  induction l generalizing js with
  | nil => simp [exceptAll] at h; subst h; rfl
  | cons a l ih =>
    obtain ⟨x, js', _, h2, rfl⟩ := exceptAll_cons_ok a l js h
    simp [ih js' h2]

theorem frames_sections (env : Env) (creator : Text) (secs : List ASection) (hs : ∀ sec ∈ secs, sec.WF) (js : List J)
    (hr : exceptAll (secs.map (renderSection env creator)) = .ok js) :
    Frames (decodeSections env creator secs.length) (secs.flatMap (·.enc))
      ((secs.map (fun sec => sectionName env.T sec.body.id)).zip js) := by
  induction secs generalizing js with
  | nil =>
    simp [exceptAll] at hr; subst hr
    exact Frames.pure _
  | cons sec secs ih =>
    obtain ⟨x, js', hx, hjs, rfl⟩ := exceptAll_cons_ok _ _ js hr
    have h1 := frames_section env creator sec (hs sec (by simp)) x hx
    have h2 := ih (fun s hsm => hs s (by simp [hsm])) js' hjs
    have h3 := Frames.bind h1 (f := fun p => decodeSections env creator secs.length >>= fun rest => pure (p :: rest))
      (Frames.bind h2 (f := fun rest => pure ((sectionName env.T sec.body.id, x) :: rest)) (Frames.pure _))
    rw [← decodeSections_succ] at h3
    simpa using h3

/-! Every decoder starts with the two mandatory headers.  `withHeads` is that start with the rest as a parameter, and each decoder is an
    instance of it by unfolding (`show … = withHeads _ _ _ from rfl` finds the rest). -/

def withHeads {α} (T : Tables) (bad : Rd α) (k : SecHdr → J × PHInfo → SecHdr → J × UHInfo → Rd α) : Rd α := do
  let h1 ← parseHeader
  if h1.id ≠ sidPH then bad else do
  let ph ← decodePH T h1
  let h2 ← parseHeader
  if h2.id ≠ sidUH then bad else do
  let uh ← decodeUH T h2 ph.2.creator
  k h1 ph h2 uh

theorem withHeads_head {α} (T : Tables) (bad : Rd α) (k : SecHdr → J × PHInfo → SecHdr → J × UHInfo → Rd α) (ph : APH) (uh : AUH)
    (hph : ph.WF) (huh : uh.WF) (n : Nat) (hn : n < 256) :
    FramesTo (withHeads T bad k)
      (encHdr sidPH 40 ph.hdr ++ ph.encBody n ++ encHdr sidUH 16 uh.hdr ++ uh.encBody)
      (k (mkSecHdr sidPH 48 ph.hdr)
        (renderPH T ph, { creator := [ph.creator], sectionCount := n, obmcLogID := ph.obmc, plid := ph.plid, eid := ph.eid,
                          commitTime := bcdTime ph.commit })
        (mkSecHdr sidUH 24 uh.hdr) (renderUH T uh [ph.creator], { severity := uh.sev, actionFlags := uh.af })) := by
  unfold withHeads
  refine .cast (a := encHdr sidPH 40 ph.hdr ++ (ph.encBody n ++ (encHdr sidUH 16 uh.hdr ++ (uh.encBody ++ [])))) ?_ (by simp)
  refine .bind (frames_parseHeader sidPH 40 ph.hdr hph.1 (by decide) (by decide)) ?_
  rw [if_neg (fun h => h rfl)]
  refine .bind (frames_PH T ph hph n hn (8 + 40)) ?_
  refine .bind (frames_parseHeader sidUH 16 uh.hdr huh.1 (by decide) (by decide)) ?_
  rw [if_neg (fun h => h rfl)]
  exact .bind (frames_UH T uh huh [ph.creator] (8 + 16)) (.refl _)

theorem withHeads_enc {α} (T : Tables) (bad : Rd α) (k : SecHdr → J × PHInfo → SecHdr → J × UHInfo → Rd α) (p : APel) (hp : p.WF)
    (rest : Bytes) :
    withHeads T bad k (p.enc ++ rest) =
      k (mkSecHdr sidPH 48 p.ph.hdr)
        (renderPH T p.ph, { creator := [p.ph.creator], sectionCount := p.sections.length + 2, obmcLogID := p.ph.obmc, plid := p.ph.plid,
                            eid := p.ph.eid, commitTime := bcdTime p.ph.commit })
        (mkSecHdr sidUH 24 p.uh.hdr) (renderUH T p.uh [p.ph.creator], { severity := p.uh.sev, actionFlags := p.uh.af })
        (p.sections.flatMap (·.enc) ++ rest) := by
  rw [APel.enc, List.append_assoc,
    (withHeads_head T bad k p.ph p.uh hp.1 hp.2.1 (p.sections.length + 2) (by have := hp.2.2.1; omega)).exact]

theorem render_ok (env : Env) (p : APel) (d : J) (h : render env p = .ok d) :
    ∃ js, exceptAll (p.sections.map (renderSection env [p.ph.creator])) = .ok js ∧ js.length = p.sections.length ∧
      d = .obj ([(sectionName env.T sidPH, renderPH env.T p.ph), (sectionName env.T sidUH, renderUH env.T p.uh [p.ph.creator])] ++
        (numberNames (p.sections.map fun sec => sectionName env.T sec.body.id)
          (p.sections.map fun sec => sectionName env.T sec.body.id)).zip js) := by
  cases hjs : exceptAll (p.sections.map (renderSection env [p.ph.creator])) with
  | error e => simp [render, hjs] at h
  | ok js =>
    simp only [render, hjs, Except.ok.injEq] at h
    exact ⟨js, rfl, by simpa using exceptAll_length _ _ hjs, h.symm⟩

/-- the whole decoder frames the encoding of a well-formed, selected PEL: it yields exactly the prescribed document
    whatever follows the PEL, and fails on every proper prefix -/
theorem frames_pel (env : Env) (cfg : SelCfg) (p : APel) (hp : p.WF)
    (hsel : considerPEL p.uh.sev p.uh.af cfg = true) (d : J) (hr : render env p = .ok d)
    (hnames : (sectionName env.T sidPH :: sectionName env.T sidUH ::
        numberNames (p.sections.map (fun sec => sectionName env.T sec.body.id))
                    (p.sections.map (fun sec => sectionName env.T sec.body.id))).Nodup) :
    Frames (parsePELRd env cfg) p.enc (.doc (fmtHex 2 p.ph.eid) d) := by
  obtain ⟨hph, huh, hlen, hsecs⟩ := hp
  obtain ⟨js, hjs, hjl, rfl⟩ := render_ok env p d hr
  have hne : sectionName env.T sidPH ≠ sectionName env.T sidUH :=
    fun h => (List.nodup_cons.1 hnames).1 (h ▸ List.mem_cons_self)
  rw [APel.enc]
  refine (show parsePELRd env cfg = withHeads env.T (pure .badHeader) _ from rfl) ▸
    (withHeads_head env.T _ _ p.ph p.uh hph huh (p.sections.length + 2) (by omega)).frames ?_
  simp only [hsel, Bool.not_true, Bool.false_eq_true, if_false, Nat.add_sub_cancel, mkSecHdr]
  refine Frames.cast (Frames.bind (frames_sections env [p.ph.creator] p.sections hsecs js hjs) (Frames.pure _))
    (List.append_nil _) ?_
  generalize hN : p.sections.map (fun sec => sectionName env.T sec.body.id) = names at hnames ⊢
  have hnl : names.length = js.length := by rw [← hN, hjl]; simp
  have hfst : (names.zip js).map (·.1) = names := by
    have := List.map_fst_zip (l₁ := names) (l₂ := js) (by omega)
    simpa using this
  have hsnd : (names.zip js).map (·.2) = js := by
    have := List.map_snd_zip (l₁ := names) (l₂ := js) (by omega)
    simpa using this
  have hb := buildOutput_eq (names.zip js)
    [(sectionName env.T sidPH, renderPH env.T p.ph), (sectionName env.T sidUH, renderUH env.T p.uh [p.ph.creator])]
    (by rw [hfst]; simpa using hnames)
  rw [objSet_two _ _ _ _ hne, hb, hfst, hsnd]

end Pel
