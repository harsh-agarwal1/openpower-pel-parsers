import PelModel.PelSpec
import PelProofs.Basic
/-
  Which members a rendered SRC (`renderSrc`, PelModel/PelSpec.lean) has, by key: statements of the form "there is no member K
  unless …" are read off `renderSrc_keys` (by member) or `renderSrc_optional` (by key) instead of walking through the member list
  once per key.
-/
namespace Pel

theorem hexword_ne (t : Text) {c : Char} {cs : List Char} (hc : c ≠ 'H') : s "Hex Word " ++ t ≠ s (String.ofList (c :: cs)) := by
  intro h
  rw [s_cons c cs, s_cons 'H', List.cons_append] at h
  exact hc (Char.toNat_inj.1 (List.cons.inj h).1).symm

theorem kv_fst (k : String) (v : J) : (kv k v).1 = s k := rfl

/-- the members of a rendered SRC that are there whatever the registry, the callout subsection and the parser modules say
    (the four in the middle: for the SRC types that have them) -/
def srcPlainKeys : List Text :=
  [s "Section Version", s "Sub-section type", s "Created by", s "SRC Version", s "SRC Format", s "Virtual Progress SRC",
   s "I5/OS Service Event Bit", s "Hypervisor Dump Initiated", s "Backplane CCIN", s "Terminate FW Error", s "Deconfigured",
   s "Guarded", s "Valid Word Count", s "Reference Code"]

theorem srcOptionalKeys_not_plain :
    s "Error Details" ∉ srcPlainKeys ∧ s "Callout Section" ∉ srcPlainKeys ∧ s "SRC Details" ∉ srcPlainKeys := by
  simp only [srcPlainKeys, List.mem_cons, List.not_mem_nil, s_eq_iff, String.reduceEq, or_false, not_false_eq_true, and_self]

/-- membership of a literal key in `srcPlainKeys` is by position: no text is compared -/
private theorem plainKey {k : String} {v : J} {p : Text × J} {Q : Prop} (hp : p = kv k v)
    (hk : s k ∈ srcPlainKeys := by simp only [srcPlainKeys, List.mem_cons, true_or, or_true]) : p.1 ∈ srcPlainKeys ∨ Q :=
  .inl (hp ▸ hk)

theorem renderSrc_keys (T : Tables) (env : SrcEnv) (h : AHdr) (creator : Text) (allow : Bool) (x : ASrc) (l : List (Text × J))
    (hl : renderSrc T env h creator allow x = .obj l) (p : Text × J) (hp : p ∈ l) :
    p.1 ∈ srcPlainKeys ∨ (∃ i, p.1 = s "Hex Word " ++ natDec i) ∨
    (p.1 = s "Error Details" ∧ ((x.ascii.take 2 = s "BD" ∨ x.ascii.take 2 = s "11") ∨ x.ascii.take 2 = s "BC") ∧
      ∃ ms, errorDetails env.registry x.ascii x.words = .some ms) ∨
    (p.1 = s "Callout Section" ∧ x.callouts ≠ none) ∨
    (p.1 = s "SRC Details" ∧ allow = true ∧ ∃ hexwords j, srcDetails env creator x.ascii hexwords = .some j) := by
  unfold renderSrc at hl
  cases hl
  simp only [hdrMembers, List.mem_append, List.mem_cons, List.mem_map, List.not_mem_nil, or_false, or_assoc] at hp
  rcases hp with hp | hp | hp | hp | hp | hp | hp | hp | hp | hp | hp | hp | ⟨i, _, hp⟩ | hp | hp
  iterate 8 exact plainKey hp
  · split at hp
    · simp only [List.mem_cons, List.not_mem_nil, or_false] at hp
      rcases hp with hp | hp <;> exact plainKey hp
    · cases hp
  · split at hp
    · rename_i hc
      simp only [List.mem_append, List.mem_cons, List.not_mem_nil, or_false] at hp
      rcases hp with (hp | hp) | hp
      · exact plainKey hp
      · exact plainKey hp
      · split at hp
        · rename_i ms he
          simp only [List.mem_cons, List.not_mem_nil, or_false] at hp
          exact .inr (.inr (.inl ⟨hp ▸ rfl, or_assoc.2 hc, ms, he⟩))
        · cases hp
    · cases hp
  · exact plainKey hp
  · exact plainKey hp
  · exact .inr (.inl ⟨i, hp ▸ rfl⟩)
  · split at hp
    · cases hp
    · rename_i cs hc
      simp only [List.mem_cons, List.not_mem_nil, or_false] at hp
      exact .inr (.inr (.inr (.inl ⟨hp ▸ rfl, by rw [hc]; exact Option.some_ne_none _⟩)))
  · split at hp
    · rename_i ha
      split at hp
      · rename_i j hj
        simp only [List.mem_cons, List.not_mem_nil, or_false] at hp
        exact .inr (.inr (.inr (.inr ⟨hp ▸ rfl, ha, _, j, hj⟩)))
      · cases hp
    · cases hp

/-- the same, read from the key: an optional member is there only under its condition -/
theorem renderSrc_optional (T : Tables) (env : SrcEnv) (h : AHdr) (creator : Text) (allow : Bool) (x : ASrc) (l : List (Text × J))
    (hl : renderSrc T env h creator allow x = .obj l) (p : Text × J) (hp : p ∈ l) :
    (p.1 = s "Error Details" → ((x.ascii.take 2 = s "BD" ∨ x.ascii.take 2 = s "11") ∨ x.ascii.take 2 = s "BC") ∧
      ∃ ms, errorDetails env.registry x.ascii x.words = .some ms) ∧
    (p.1 = s "Callout Section" → x.callouts ≠ none) ∧
    (p.1 = s "SRC Details" → allow = true ∧ ∃ hexwords j, srcDetails env creator x.ascii hexwords = .some j) := by
  rcases renderSrc_keys T env h creator allow x l hl p hp with hk | ⟨i, hk⟩ | ⟨hk, hc⟩ | ⟨hk, hc⟩ | ⟨hk, hc⟩
  · exact ⟨fun e => (srcOptionalKeys_not_plain.1 (e ▸ hk)).elim, fun e => (srcOptionalKeys_not_plain.2.1 (e ▸ hk)).elim,
      fun e => (srcOptionalKeys_not_plain.2.2 (e ▸ hk)).elim⟩
  · exact ⟨fun e => (hexword_ne _ (by decide) (hk.symm.trans e)).elim, fun e => (hexword_ne _ (by decide) (hk.symm.trans e)).elim,
      fun e => (hexword_ne _ (by decide) (hk.symm.trans e)).elim⟩
  -- the key is one of the three: the other two implications are void, the literals being different `String`s
  all_goals simpa only [hk, s_eq_iff, String.reduceEq, false_imp_iff, true_imp_iff, and_true, true_and] using hc

end Pel
