import PelModel.PelSpec
import PelProofs.JsonParse
import PelProofs.JsonAlign
/- User-data sections (C04): what `parseUserData` returns and how `udToJson` shows it, one equation per branch; the built-in text
   format in terms of `splitNL`; the built-in JSON format on a printed document.  `headMembers` and `isBuiltin` are the vocabulary of
   the C04 statements. -/
namespace Pel.C04

def headMembers (T : Tables) (h : SecHdr) (creator : Text) : List (Text × J) :=
  [kv "Section Version" (jnum h.ver), kv "Sub-section type" (jnum h.sub), kv "Created by" (jstr (displayCompID T h.comp creator))]

def isBuiltin (T : Tables) (creator : Text) (comp : Nat) : Prop := lookupT T.creators creator = some (s "BMC") ∧ comp = 0x2000

end Pel.C04
namespace Pel
open C04

/-! ### `parseUserData` and `udToJson`, branch by branch -/

theorem udToJson_json (T : Tables) (h : SecHdr) (creator : Text) (j : J) :
    udToJson T h creator (.json j) = .ok (match j with
      | .obj ms => .obj (objUpdate (headMembers T h creator) ms)
      | other => .obj (objSet (headMembers T h creator) (s "Data") other)) := rfl

theorem udToJson_text (T : Tables) (h : SecHdr) (creator t : Text) (j : J) (hl : loads t = .ok j) :
    udToJson T h creator (.text t) = udToJson T h creator (.json j) := by
  simp only [udToJson, hl]

theorem udToJson_data (T : Tables) (h : SecHdr) (creator : Text) (j : J) (hno : ∀ m, j ≠ .obj m) :
    udToJson T h creator (.json j) = .ok (.obj (headMembers T h creator ++ [kv "Data" j])) := by
  have hf := objSet_fresh (headMembers T h creator) (s "Data") j (by simp [headMembers, kv, s_eq_iff])
  rw [udToJson_json]
  cases j with
  | obj m => exact absurd rfl (hno m)
  | _ => exact congrArg (fun l => Except.ok (J.obj l)) hf

theorem udToJson_obj (T : Tables) (h : SecHdr) (creator : Text) (ms : List (Text × J))
    (hnd : ((headMembers T h creator ++ ms).map (·.1)).Nodup) :
    udToJson T h creator (.json (.obj ms)) = .ok (.obj (headMembers T h creator ++ ms)) :=
  congrArg (fun l => Except.ok (J.obj l)) (objUpdate_fresh _ _ hnd)

theorem udToJson_error (T : Tables) (h : SecHdr) (creator note : Text) (data : Bytes) (hne : data ≠ []) :
    udToJson T h creator (.json (errorWithData note data)) =
      .ok (.obj (headMembers T h creator ++ [kv "Error" (jstr note), kv "Data" (hexdumpJ data)])) := by
  rw [errorWithData, if_pos hne]
  exact udToJson_obj T h creator _ (by simp [headMembers, kv, s_eq_iff])

theorem parseUserData_builtin (T : Tables) (env : UdEnv) (allow : Bool) (creator : Text) (comp sub ver : Nat) (data : Bytes)
    (hb : isBuiltin T creator comp) :
    parseUserData T env allow creator comp sub ver data = builtinFormat sub data := by
  rw [parseUserData, if_pos (by exact hb)]

theorem parseUserData_disabled (T : Tables) (env : UdEnv) (creator : Text) (comp sub ver : Nat) (data : Bytes)
    (hnb : ¬ isBuiltin T creator comp) :
    parseUserData T env false creator comp sub ver data =
      .json (.obj (if data ≠ [] then [kv "Data" (hexdumpJ data)] else [])) := by
  rw [parseUserData, if_neg (by exact hnb)]; rfl

theorem parseUserData_absent (T : Tables) (env : UdEnv) (creator : Text) (comp sub ver : Nat) (data : Bytes)
    (hnb : ¬ isBuiltin T creator comp)
    (he : env (udModuleName creator comp) = .absent) :
    parseUserData T env true creator comp sub ver data = .json (hexdumpJ data) := by
  rw [parseUserData, if_neg (by exact hnb), he]; rfl

theorem parseUserData_error (T : Tables) (env : UdEnv) (creator : Text) (comp sub ver : Nat) (data : Bytes)
    (hnb : ¬ isBuiltin T creator comp)
    (he : (∃ msg, env (udModuleName creator comp) = .raises msg) ∨
      (∃ msg, env (udModuleName creator comp) = .importRaises msg) ∨ env (udModuleName creator comp) = .returnsNone) :
    ∃ note, parseUserData T env true creator comp sub ver data = .json (errorWithData note data) := by
  rw [parseUserData, if_neg (by exact hnb)]
  rcases he with ⟨msg, he⟩ | ⟨msg, he⟩ | he <;> rw [he] <;> exact ⟨_, rfl⟩

/-! ### the built-in text format

`specLines` (PelProps/C04.lean), which the property states in one piece, is `finLines` of the lines of `splitNL` mapped with `dotCh`; the
two are named here because the loop is followed with a line in progress (`textLinesGo_gen`). -/

def dotCh (ch : Nat) : Nat := if ch < 32 ∨ ch > 126 then 46 else ch

def finLines (ls : List Text) : List Text := if ls.getLast? = some [] then ls.dropLast else ls

theorem finLines_cons_cons (a b : Text) (r : List Text) : finLines (a :: b :: r) = a :: finLines (b :: r) := by
  unfold finLines
  rw [List.getLast?_cons_cons]
  split <;> simp [List.dropLast]

theorem textLinesGo_gen (t : Text) : ∀ (line l : Text) (ls : List Text), splitNL t = l :: ls →
    textLinesGo t line = finLines ((line ++ l.map dotCh) :: ls.map (fun x => x.map dotCh)) := by
  induction t with
  | nil =>
    intro line l ls e
    simp only [splitNL, List.cons.injEq] at e
    obtain ⟨rfl, rfl⟩ := e
    simp only [textLinesGo, List.map_nil, List.append_nil, finLines, List.getLast?_singleton, Option.some.injEq,
      List.dropLast_singleton]
    by_cases h : line = []
    · simp [h]
    · simp [h]
  | cons c r ih =>
    intro line l ls e
    obtain ⟨l', ls', e'⟩ := List.exists_cons_of_ne_nil (splitNL_ne_nil r)
    by_cases h : c = 10
    · subst h
      rw [splitNL_nl, e'] at e
      simp only [List.cons.injEq] at e
      obtain ⟨rfl, rfl⟩ := e
      have hne : ¬ ((10:Nat) ≠ 10) := by simp
      rw [textLinesGo, if_neg hne, ih [] l' ls' e']
      simp only [List.map_nil, List.append_nil, List.nil_append, List.map_cons]
      rw [finLines_cons_cons]
    · rw [splitNL_char c r h, e'] at e
      simp only [List.headD_cons, List.tail_cons, List.cons.injEq] at e
      obtain ⟨rfl, rfl⟩ := e
      rw [textLinesGo, if_pos h, ih _ l' ls' e']
      simp only [List.map_cons, List.append_assoc, List.singleton_append, dotCh]

/-! ### the printed text is ASCII -/

def ascii (t : Text) : Prop := ∀ x ∈ t, x < 128

theorem ascii_aItems (n : Nat) : ∀ (l : List J) (lvl : Nat), ascii (aItems n l lvl) :=
  fun l lvl c hc => (ascii_of_chars (aItems_chars n l lvl) c hc).2
theorem ascii_aMembers (n : Nat) : ∀ (l : List (Text × J)) (lvl : Nat), ascii (aMembers n l lvl) :=
  fun l lvl c hc => (ascii_of_chars (aMembers_chars n l lvl) c hc).2

theorem stripSp_padded (x : Text) (pad : Nat) (hf : ∃ c r, x = c :: r ∧ isPySpace c = false)
    (hl : ∃ r c, x = r ++ [c] ∧ isPySpace c = false) :
    stripSp (x ++ List.replicate pad 0) = x ++ List.replicate pad 0 := by
  have h1 : lstripSp (x ++ List.replicate pad 0) = x ++ List.replicate pad 0 := by
    obtain ⟨c, r, e, hc⟩ := hf
    subst e
    simp [lstripSp, hc]
  unfold stripSp
  rw [h1]
  unfold rstripSp
  cases pad with
  | zero =>
    obtain ⟨r, c, e, hc⟩ := hl
    subst e
    rw [List.replicate_zero, List.append_nil]
    exact rstrip_keep _ r c hc
  | succ k =>
    rw [List.replicate_succ', ← List.append_assoc]
    exact rstrip_keep _ _ 0 (by decide)

/-- the built-in JSON format sees exactly the printed text -/
theorem builtin_sees_aText (n : Nat) (d : J) (pad : Nat) :
    utf8Decode (aText n d 0 ++ List.replicate pad 0) = some (aText n d 0 ++ List.replicate pad 0) ∧
    rstripChar 0 (stripSp (aText n d 0 ++ List.replicate pad 0)) = aText n d 0 := by
  obtain ⟨a, m, ea, ha⟩ := aText_head n d 0
  obtain ⟨r, c, e, hc⟩ := aText_last n d 0
  refine ⟨utf8Decode_lt128 _ ?_, ?_⟩
  · simp only [List.forall_mem_append, List.forall_mem_replicate]
    exact ⟨aText_lt128 n d 0, .inr (by omega)⟩
  rw [stripSp_padded _ pad ⟨a, m, ea, isPySpace_visible a ⟨ha.1, ha.2.1⟩⟩ ⟨r, c, e, isPySpace_visible c hc⟩,
    rstripNul_padded _ pad ⟨r, c, e, by omega⟩]

end Pel
