import PelModel.Hlog
import PelProofs.Bytes
/- The field loop of `parseHlog` against the declarative `specHlogFields` (C16): both walk the offsets `fieldOffsets`. -/
namespace Pel

/-! ### size of a big-endian value -/

theorem fromBE_lt_16 (size : Nat) (bs : Bytes) (hlen : bs.length = size) (h : ∀ x ∈ bs, x < 256) :
    fromBE bs < 16 ^ (2 * size) := by
  rw [Nat.pow_mul, ← hlen]; exact fromBE_lt bs h

theorem fmtHex_field (size : Nat) (bs : Bytes) (hlen : bs.length = size) (hb : ∀ x ∈ bs, x < 256)
    (hv : fromBE bs ≠ 0) : fmtHex (size * 2) (fromBE bs) = hexFix (2 * size) (fromBE bs) := by
  -- a field of no bytes has the value 0
  have hpos : size ≠ 0 := fun h0 => hv (by rw [List.eq_nil_of_length_eq_zero (hlen.trans h0)]; rfl)
  rw [Nat.mul_comm size 2]
  exact fmtHex_eq_hexFix (2 * size) (fromBE bs) (fromBE_lt_16 size bs hlen hb) (by omega)

/-! ### the field loop is the declarative rule -/

/-- the line (if any) the declarative rule produces for the field at offset `o` -/
def fieldLine (b : Bytes) : Nat × HlogField → Option Text := fun (o, f) =>
  let v := fromBE ((b.drop o).take f.2)
  if v ≠ 0 then some (f.1 ++ s ": 0x" ++ hexFix (2 * f.2) v) else none

def fieldFits (b : Bytes) : Nat × HlogField → Bool := fun (o, f) => o + f.2 ≤ b.length

theorem specHlogFields_eq (fields : List HlogField) (b : Bytes) :
    specHlogFields fields b = ((fieldOffsets 0 fields).takeWhile (fieldFits b)).filterMap (fieldLine b) := rfl

theorem hlogFields_eq_spec (b : Bytes) (hb : ∀ x ∈ b, x < 256) : ∀ (fields : List HlogField) (o : Nat),
    o ≤ b.length →
    hlogFields fields (b.drop o) =
      ((fieldOffsets o fields).takeWhile (fieldFits b)).filterMap (fieldLine b)
  | [], o, _ => by simp [hlogFields, fieldOffsets]
  | (name, size) :: fs, o, ho => by
    simp only [hlogFields, fieldOffsets, List.takeWhile_cons, List.length_drop, fieldFits, decide_eq_true_eq]
    by_cases hfit : o + size ≤ b.length
    · rw [if_pos (by omega), if_pos hfit, List.filterMap_cons, List.drop_drop, hlogFields_eq_spec b hb fs (o + size) hfit]
      have hlen : ((b.drop o).take size).length = size := by simp; omega
      by_cases hv : fromBE ((b.drop o).take size) = 0
      · simp [fieldLine, hv]
      · simp [fieldLine, hv, hlogFieldLine, fmtHex_field size _ hlen (mem_take_drop_lt b hb o size) hv]
    · rw [if_neg (by omega), if_neg hfit]; rfl

theorem parseHlog_eq (fields : List HlogField) (b : Bytes) :
    parseHlog fields b = s "Hex Dump" :: s "--------" :: (hexdump16 b ++
      ([[], s "Non-Zero Field Values", s "---------------------"] ++ hlogFields fields b)) := by
  simp [parseHlog]

end Pel
