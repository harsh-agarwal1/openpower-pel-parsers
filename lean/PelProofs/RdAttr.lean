import Lean.Meta.Tactic.Simp.RegisterCommand
/-- the readers proved `Suffixing` so far: the leaves at which the walk `suff` (PelProofs/PelPropsAux.lean) stops -/
register_simp_attr suffixing
