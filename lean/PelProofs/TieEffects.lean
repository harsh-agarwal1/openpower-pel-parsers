import PelModel.TransEffects
import PelModel.Top
import PelProofs.JsonAlign
import PelProofs.Clean
import PelProofs.Cli
/-
  Running the effect monad of PelModel/TransEffects.lean symbolically, for the source ties of stream `effects` (PelProps/TieC11.lean,
  TieC12.lean).  What each primitive does to the log is a named function of the log (`St.ok`, `St.diag`, `St.wrote` …), so that the
  log of a run is a short term; loops, `writelines` and `with open` have run equations.  The runs of the two functions that decode
  one file are in PelProofs/TieEffectsRun.lean.
-/
namespace Pel

/-- the first or second section is not the Private / User Header (`parsePEL` then returns `("", "")`, or exits with `exit_on_error`) -/
def Outcome.isBadHeader : Outcome → Bool
  | .badHeader => true
  | _ => false

end Pel

namespace Pel.Eff

/-! ### running a computation symbolically -/

@[simp] theorem run_pure {α} (a : α) (fault : Nat → Bool) (st : St) : (pure a : M α) fault st = (.ok a, st) := rfl
@[simp] theorem run_bind {α β} (x : M α) (f : α → M β) (fault : Nat → Bool) (st : St) :
    (x >>= f) fault st = match x fault st with
      | (.ok a, st') => f a fault st'
      | (.error e, st') => (.error e, st') := rfl
@[simp] theorem run_raise {α} (e : Exc) (fault : Nat → Bool) (st : St) : (raise e : M α) fault st = (.error e, st) := rfl

theorem step_ok (ev : Ev) (eff : St → St) (fault : Nat → Bool) (st : St) (h : fault st.k = false) :
    step ev eff fault st = (.ok (), eff (st.ok ev)) := by
  simp [step, h]
theorem step_fail (ev : Ev) (eff : St → St) (fault : Nat → Bool) (st : St) (h : fault st.k = true) :
    step ev eff fault st = (.error (.osError ev), st.fail ev) := by
  simp [step, h]
@[simp] theorem step_noFault (ev : Ev) (eff : St → St) (st : St) : step ev eff noFault st = (.ok (), eff (st.ok ev)) := rfl

@[simp] theorem isException_ite (c : Prop) [Decidable c] (a b : Exc) :
    (if c then a else b).isException = if c then a.isException else b.isException := by
  split <;> rfl
@[simp] theorem isException_osError (ev : Ev) : (Exc.osError ev).isException = true := rfl
@[simp] theorem isException_noFile : Exc.noFile.isException = true := rfl
@[simp] theorem isException_decode (e : Err) : (Exc.decode e).isException = true := rfl
@[simp] theorem isException_exit (n : Nat) : (Exc.exit n).isException = false := rfl
@[simp] theorem isException_exitMsg : Exc.exitMsg.isException = false := rfl

/-! ### loops over a directory -/

/-- a loop whose body `continue`s on the entries that fail a test and ends the loop (`break`) at the first one that passes -/
theorem forEachS_find_run {α σ} (xs : List α) (s0 : σ) (body : α → σ → M (Loop σ)) (P : α → Bool) (fault : Nat → Bool)
    (post : α → St → Except Exc σ × St)
    (h1 : ∀ x st, P x = false → body x s0 fault st = (.ok (.next s0), st))
    (h2 : ∀ x st, P x = true → body x s0 fault st =
      (match post x st with | (.ok s', st') => (.ok (.brk s'), st') | (.error e, st') => (.error e, st')))
    (st : St) :
    forEachS xs s0 body fault st = match xs.find? P with | none => (.ok s0, st) | some x => post x st := by
  induction xs generalizing st with
  | nil => rfl
  | cons x xs ih =>
    cases hp : P x with
    | false =>
      simp only [forEachS, h1 x st hp, List.find?, hp]
      exact ih st
    | true =>
      simp only [forEachS, h2 x st hp, List.find?, hp]
      rcases post x st with ⟨r, st'⟩
      cases r <;> rfl

/-- a loop whose body always goes on to the next entry -/
theorem forEachS_all_run {α σ} (xs : List α) (s0 : σ) (body : α → σ → M (Loop σ)) (fault : Nat → Bool) (post : α → St → St)
    (h : ∀ x st, body x s0 fault st = (.ok (.next s0), post x st)) (st : St) :
    forEachS xs s0 body fault st = (.ok s0, xs.foldl (fun st x => post x st) st) := by
  induction xs generalizing st with
  | nil => rfl
  | cons x xs ih => simp only [forEachS, h x st, List.foldl]; exact ih _

/-! ### `writelines`, and `runSteps` over a run of equal steps -/

/-- no step with index `k … k+n-1` faults -/
def allOk (fault : Nat → Bool) (k : Nat) : Nat → Bool
  | 0 => true
  | n + 1 => !fault k && allOk fault (k + 1) n

theorem allOk_iff (fault : Nat → Bool) (k n : Nat) : allOk fault k n = true ↔ ∀ j, j < n → fault (k + j) = false := by
  induction n generalizing k with
  | zero => simp [allOk]
  | succ n ih => simp [allOk, ih, Nat.forall_lt_succ_left, Nat.add_assoc, Nat.add_comm 1]

theorem runSteps_replicate_ok (e : Ev) (n k : Nat) (fault : Nat → Bool) (rest : List Ev) (h : allOk fault k n = true) :
    runSteps (List.replicate n e ++ rest) k fault = List.replicate n (e, true) ++ runSteps rest (k + n) fault := by
  rw [runSteps_append, List.length_replicate, if_pos ((allOk_iff fault k n).1 h), List.map_replicate]

theorem runSteps_replicate_fail (e : Ev) (n k : Nat) (fault : Nat → Bool) (rest : List Ev) (h : allOk fault k n = false) :
    runSteps (List.replicate n e ++ rest) k fault = runSteps (List.replicate n e) k fault := by
  rw [runSteps_append, List.length_replicate, if_neg (by rw [← allOk_iff, h]; simp)]

@[simp] theorem removeIn_not_mem_writes (ok : Bool) (n k : Nat) (fault : Nat → Bool) :
    (Ev.removeIn, ok) ∉ runSteps (List.replicate n Ev.write) k fault :=
  runSteps_not_mem _ _ _ _ _ (by simp [List.mem_replicate])

theorem appendCur_appendCur (a b : Text) (s : St) : appendCur a (appendCur b s) = appendCur (b ++ a) s := by
  unfold appendCur
  cases h : s.created with
  | nil => simp [h]
  | cons pc r => obtain ⟨p, c⟩ := pc; simp

/-- the log after `t` was written completely -/
def St.wrote (st : St) (t : Text) : St :=
  { appendCur t st with k := st.k + t.length, trace := st.trace ++ List.replicate t.length (Ev.write, true) }

/-! projections of the log after a step (simp normal forms for symbolic runs) -/
@[simp] theorem St.ok_k (st : St) (ev : Ev) : (st.ok ev).k = st.k + 1 := rfl
@[simp] theorem St.ok_trace (st : St) (ev : Ev) : (st.ok ev).trace = st.trace ++ [(ev, true)] := rfl
@[simp] theorem St.ok_unwind (st : St) (ev : Ev) : (st.ok ev).unwind = st.unwind := rfl
@[simp] theorem St.ok_stdout (st : St) (ev : Ev) : (st.ok ev).stdout = st.stdout := rfl
@[simp] theorem St.ok_stderr (st : St) (ev : Ev) : (st.ok ev).stderr = st.stderr := rfl
@[simp] theorem St.ok_created (st : St) (ev : Ev) : (st.ok ev).created = st.created := rfl
@[simp] theorem St.ok_removed (st : St) (ev : Ev) : (st.ok ev).removed = st.removed := rfl
@[simp] theorem St.fail_k (st : St) (ev : Ev) : (st.fail ev).k = st.k + 1 := rfl
@[simp] theorem St.fail_trace (st : St) (ev : Ev) : (st.fail ev).trace = st.trace ++ [(ev, false)] := rfl
@[simp] theorem St.fail_unwind (st : St) (ev : Ev) : (st.fail ev).unwind = st.unwind := rfl
@[simp] theorem St.fail_stdout (st : St) (ev : Ev) : (st.fail ev).stdout = st.stdout := rfl
@[simp] theorem St.fail_stderr (st : St) (ev : Ev) : (st.fail ev).stderr = st.stderr := rfl
@[simp] theorem St.fail_created (st : St) (ev : Ev) : (st.fail ev).created = st.created := rfl
@[simp] theorem St.fail_removed (st : St) (ev : Ev) : (st.fail ev).removed = st.removed := rfl
@[simp] theorem appendCur_k (t : Text) (st : St) : (appendCur t st).k = st.k := by unfold appendCur; split <;> rfl
@[simp] theorem appendCur_trace (t : Text) (st : St) : (appendCur t st).trace = st.trace := by unfold appendCur; split <;> rfl
@[simp] theorem appendCur_unwind (t : Text) (st : St) : (appendCur t st).unwind = st.unwind := by unfold appendCur; split <;> rfl
@[simp] theorem appendCur_stdout (t : Text) (st : St) : (appendCur t st).stdout = st.stdout := by unfold appendCur; split <;> rfl
@[simp] theorem appendCur_stderr (t : Text) (st : St) : (appendCur t st).stderr = st.stderr := by unfold appendCur; split <;> rfl
@[simp] theorem appendCur_removed (t : Text) (st : St) : (appendCur t st).removed = st.removed := by unfold appendCur; split <;> rfl
@[simp] theorem appendCur_created_cons (t : Text) (st : St) (p c : Text) (r : List (Text × Text)) (h : st.created = (p, c) :: r) :
    (appendCur t st).created = (p, c ++ t) :: r := by unfold appendCur; simp [h]
@[simp] theorem St.wrote_k (st : St) (t : Text) : (st.wrote t).k = st.k + t.length := rfl
@[simp] theorem St.wrote_trace (st : St) (t : Text) : (st.wrote t).trace = st.trace ++ List.replicate t.length (Ev.write, true) := rfl
@[simp] theorem St.wrote_unwind (st : St) (t : Text) : (st.wrote t).unwind = st.unwind := by simp [St.wrote]
@[simp] theorem St.wrote_stdout (st : St) (t : Text) : (st.wrote t).stdout = st.stdout := by simp [St.wrote]
@[simp] theorem St.wrote_stderr (st : St) (t : Text) : (st.wrote t).stderr = st.stderr := by simp [St.wrote]
@[simp] theorem St.wrote_removed (st : St) (t : Text) : (st.wrote t).removed = st.removed := by simp [St.wrote]
@[simp] theorem St.wrote_created (st : St) (t : Text) : (st.wrote t).created = (appendCur t st).created := rfl

theorem appendCur_nil (st : St) : appendCur [] st = st := by
  unfold appendCur
  split
  · rfl
  · next h => simp [← h]

theorem appendCur_ok (t : Text) (st : St) (ev : Ev) : appendCur t (st.ok ev) = (appendCur t st).ok ev := by
  unfold appendCur St.ok
  split <;> simp_all

theorem writelinesStr_ok (t : Text) (fault : Nat → Bool) (st : St) (h : allOk fault st.k t.length = true) :
    writelinesStr t fault st = (.ok (), st.wrote t) := by
  induction t generalizing st with
  | nil => simp [writelinesStr, St.wrote, appendCur_nil]
  | cons c cs ih =>
    simp only [List.length_cons, allOk, Bool.and_eq_true, Bool.not_eq_true'] at h
    simp only [writelinesStr, step_ok _ _ _ _ h.1]
    rw [ih _ (by simpa using h.2)]
    simp [St.wrote, appendCur_appendCur, appendCur_ok, List.replicate_succ, Nat.add_assoc, Nat.add_comm 1]

/-! ### what the primitives do to the log

Named, so that the log of a run is a short term (a record update written on a compound log copies that log once per field);
reducible, so that `simp` reads a field of `st.diag t` by unfolding the update under the projection, and nowhere else. -/

/-- `print(t, file=sys.stderr)` -/
@[reducible] def St.diag (st : St) (t : Text) : St := { st with stderr := st.stderr ++ [t] }
/-- text arrives on stdout -/
@[reducible] def St.out (st : St) (t : Text) : St := { st with stdout := st.stdout ++ t }
/-- `open(p, "w")` -/
@[reducible] def St.opened (st : St) (p : Text) : St := { st with created := (p, []) :: st.created }
/-- `os.remove(p)` -/
@[reducible] def St.rm (st : St) (p : Text) (e : Option FileEntry) : St := { st with removed := st.removed ++ [(p, e)] }
/-- the `close()` a `with` makes while an exception propagates: it uses up a step number and is not part of the trace -/
@[reducible] def St.unwound (st : St) (fault : Nat → Bool) : St :=
  { st with k := st.k + 1, unwind := st.unwind ++ [(Ev.closeOut, !fault st.k)] }

@[simp] theorem diag_run (t : Text) (fault : Nat → Bool) (st : St) : diag t fault st = (.ok (), st.diag t) := rfl
theorem printOut_eq (t : Text) : printOut t = step .print (St.out · (t ++ nl)) := by
  funext fault st; simp only [printOut, List.append_assoc]
theorem printHex_eq (data : Bytes) : printHex data = step .print (St.out · (linesOut (pelHexDisplay data))) := rfl
theorem osRemove_eq (p : Text) (e : Option FileEntry) : osRemove p e = step .removeIn (St.rm · p e) := rfl

/-- `with open(path, "w")` in one piece: the open step, the body, then the close as a step (body ended normally) or as unwinding -/
@[simp] theorem withOpenW_run {α} (path : Text) (body : M α) (fault : Nat → Bool) (st : St) :
    withOpenW path body fault st =
      if fault st.k then (.error (.osError .openOut), st.fail .openOut)
      else match body fault ((st.ok .openOut).opened path) with
        | (.ok a, st2) => if fault st2.k then (.error (.osError .closeOut), st2.fail .closeOut) else (.ok a, st2.ok .closeOut)
        | (.error e, st2) => (.error (if fault st2.k then .osError .closeOut else e), st2.unwound fault) := by
  cases h0 : fault st.k with
  | true => simp [withOpenW, step, h0]
  | false =>
    simp only [withOpenW, step, h0, Bool.false_eq_true, if_false]
    show (match body fault ((st.ok .openOut).opened path) with | (.ok a, st2) => _ | (.error e, st2) => _) = _
    rcases body fault ((st.ok .openOut).opened path) with ⟨r, st2⟩
    cases r with
    | error e => rfl
    | ok a => cases h2 : fault st2.k <;> simp [h2]

/-- the log a `writelines` leaves behind that stops at the first failing write -/
def St.writeFail (fault : Nat → Bool) : Text → St → St
  | [], st => st
  | c :: cs, st => if fault st.k then st.fail .write else St.writeFail fault cs (appendCur [c] (st.ok .write))

theorem writelinesStr_fail (t : Text) (fault : Nat → Bool) (st : St) (h : allOk fault st.k t.length = false) :
    writelinesStr t fault st = (.error (.osError .write), St.writeFail fault t st) := by
  induction t generalizing st with
  | nil => simp [allOk] at h
  | cons c cs ih =>
    cases hf : fault st.k with
    | true => simp [writelinesStr, step_fail _ _ _ _ hf, St.writeFail, hf]
    | false =>
      simp only [List.length_cons, allOk, hf, Bool.not_false, Bool.true_and] at h
      simp only [writelinesStr, step_ok _ _ _ _ hf, St.writeFail, hf, Bool.false_eq_true, if_false]
      rw [ih _ (by simpa using h)]

@[simp] theorem St.writeFail_trace (fault : Nat → Bool) (t : Text) (st : St) :
    (St.writeFail fault t st).trace = st.trace ++ runSteps (List.replicate t.length Ev.write) st.k fault := by
  induction t generalizing st with
  | nil => simp [St.writeFail, runSteps]
  | cons c cs ih =>
    simp only [St.writeFail, List.length_cons, List.replicate_succ, runSteps]
    cases hf : fault st.k <;> simp [ih]
/-- a `writelines` that fails touches only the step count, the trace and the file being written -/
theorem St.writeFail_frame (fault : Nat → Bool) (t : Text) (st : St) :
    (St.writeFail fault t st).unwind = st.unwind ∧ (St.writeFail fault t st).removed = st.removed ∧
    (St.writeFail fault t st).stderr = st.stderr ∧ (St.writeFail fault t st).stdout = st.stdout := by
  induction t generalizing st with
  | nil => exact ⟨rfl, rfl, rfl, rfl⟩
  | cons c cs ih => simp only [St.writeFail]; split <;> simp [ih]
@[simp] theorem St.writeFail_unwind (fault : Nat → Bool) (t : Text) (st : St) : (St.writeFail fault t st).unwind = st.unwind :=
  (St.writeFail_frame fault t st).1
@[simp] theorem St.writeFail_removed (fault : Nat → Bool) (t : Text) (st : St) : (St.writeFail fault t st).removed = st.removed :=
  (St.writeFail_frame fault t st).2.1
@[simp] theorem St.writeFail_stdout (fault : Nat → Bool) (t : Text) (st : St) : (St.writeFail fault t st).stdout = st.stdout :=
  (St.writeFail_frame fault t st).2.2.2

@[simp] theorem allOk_noFault (k n : Nat) : allOk noFault k n = true := (allOk_iff noFault k n).2 fun _ _ => rfl

/-! ### removing directory entries -/

/-- a loop that removes (successfully) the entries that pass a test: what it adds to the log, for any naming `r` of what is removed -/
theorem foldl_rm {α : Type} (P : α → Bool) (r : α → Text × Option FileEntry) (xs : List α) (st : St) :
    let st' := xs.foldl (fun st x => if P x then (st.ok .removeIn).rm (r x).1 (r x).2 else st) st
    st'.removed = st.removed ++ (xs.filter P).map r ∧
    st'.stdout = st.stdout ∧ st'.stderr = st.stderr ∧ st'.created = st.created ∧ st'.unwind = st.unwind := by
  induction xs generalizing st with
  | nil => simp
  | cons x xs ih =>
    simp only [List.foldl_cons, List.filter_cons]
    cases hp : P x with
    | false => simpa using ih st
    | true => simpa using ih ((st.ok .removeIn).rm (r x).1 (r x).2)

theorem foldl_erase_self {α} [BEq α] [LawfulBEq α] (l : List α) : l.foldl List.erase l = [] := by
  induction l with
  | nil => rfl
  | cons x xs ih => simp [List.foldl_cons, ih]

/-! ### the `-j` loop -/

/-- the `parseAndWriteOutput` calls of the `-j` loop of `main()`, one after the other -/
def runCalls (g : Sys → Text → Text → CliOpts → Bool → M Unit) (y : Sys) (c : CliOpts) : List (Text × Text × Bool) → M Unit
  | [] => pure ()
  | (f, out, clean) :: r => g y f out c clean >>= fun _ => runCalls g y c r

end Pel.Eff

namespace Pel

/-- number of characters of the document (= number of `write` calls `writelines` makes) -/
def docLen : FileRes (Text × J) → Nat
  | .some (_, j) => (prettyPrint 34 (dumps j)).length
  | _ => 0

theorem filter_noext (l : List FileEntry) :
    l.filter (fun f => match (none : Option Text) with
      | some e => if e = [] then true else splitext f.name == e
      | none => true) = l := List.filter_eq_self.mpr (fun _ _ => rfl)

/-- `jsonMode` is the concatenation of its one-file steps -/
theorem jsonMode_cons (env : Env) (o : CliOpts) (clean : Bool) (f : FileEntry) (d : Dir) :
    (jsonMode env o clean (f :: d)).created = (jsonMode env o clean [f]).created ++ (jsonMode env o clean d).created ∧
    (jsonMode env o clean (f :: d)).removed = (jsonMode env o clean [f]).removed ++ (jsonMode env o clean d).removed ∧
    (jsonMode env o clean (f :: d)).stderrLines = (jsonMode env o clean [f]).stderrLines + (jsonMode env o clean d).stderrLines := by
  rw [← List.singleton_append (x := f) (l := d)]
  simp only [jsonMode, List.filter_append, List.map_append, List.filterMap_append, List.length_append, true_and]
  cases clean <;> simp

/-- the extension filter may be applied beforehand (as `main()` does) -/
theorem jsonMode_prefiltered (env : Env) (o : CliOpts) (clean : Bool) (d : Dir) :
    jsonMode env o clean d = jsonMode env { o with ext := none } clean (d.filter (fun f => match o.ext with
      | some e => if e = [] then true else splitext f.name == e
      | none => true)) := by
  simp only [jsonMode, filter_noext]
  rfl

end Pel
