import Lean.Meta.Tactic.Simp.RegisterCommand
/- the three simp sets of the `dirmodes` tie (PelProofs/TieDirModes.lean); an attribute must be registered in a module of its own -/
/-- lemmas that run a program of the output monad `OutM` on a symbolic state -/
register_simp_attr outm
/-- the dictionary keys of `parsePELSummary`: their code points in a generated term are folded back into the strings (`↓`: a key that is the tail of a longer one is not taken out of it) -/
register_simp_attr pykeys
/-- what a mode wrote, in normal form: the definitions and list lemmas that close the comparison of a finished run with the
    semantic step -/
register_simp_attr dmout
