import PelModel.HexDump
import PelProofs.Bytes
/- `hexdump` and the line scanner of `parse` (C13; C04 and C15–C17 dump through them): the division of the data into chunks, one per
   line; the scanner along a template; how long a hex column and a line are; when stripping the newline leaves a line as it is. -/
namespace Pel

/-! ### the three line templates as code points

Each literal is decoded here, once (`s_ofList`); what else is said about a template is read off these lists. -/

theorem fmtDefault_lit : fmtDefault =
    [65, 65, 65, 65, 65, 65, 65, 65, 32, 32, 32, 32, 32, 68, 68, 68, 68, 68, 68, 68, 68, 32, 32, 68, 68, 68, 68, 68, 68, 68, 68,
     32, 32, 68, 68, 68, 68, 68, 68, 68, 68, 32, 32, 68, 68, 68, 68, 68, 68, 68, 68, 32, 32, 32, 32, 32, 67, 67, 67, 67, 67, 67,
     67, 67, 67, 67, 67, 67, 67, 67, 67, 67] :=
  s_ofList _

theorem fmtBmc_lit : fmtBmc =
    [65, 65, 65, 65, 58, 32, 32, 68, 68, 68, 68, 68, 68, 68, 68, 32, 68, 68, 68, 68, 68, 68, 68, 68, 32, 68, 68, 68, 68, 68, 68,
     68, 68, 32, 68, 68, 68, 68, 68, 68, 68, 68, 32, 32, 60, 67, 67, 67, 67, 67, 67, 67, 67, 67, 67, 67, 67, 67, 67, 67, 67, 62] :=
  s_ofList _

theorem fmtPre_lit : fmtPre =
    [68, 68, 32, 68, 68, 32, 68, 68, 32, 68, 68, 32, 68, 68, 32, 68, 68, 32, 68, 68, 32, 68, 68, 32, 68, 68, 32, 68, 68, 32, 68,
     68, 32, 68, 68, 32, 68, 68, 32, 68, 68, 32, 68, 68, 32, 68, 68, 32, 67, 67, 67, 67, 67, 67, 67, 67, 67, 67, 67, 67, 67, 67,
     67, 67] :=
  s_ofList _

/-- what `parseLine_noise` asks of a template: its first cell is an address or a data digit -/
theorem fmtBmc_head : fmtBmc.head? = some chA ∨ fmtBmc.head? = some chD := Or.inl (by rw [fmtBmc_lit]; rfl)
theorem fmtPre_head : fmtPre.head? = some chA ∨ fmtPre.head? = some chD := Or.inr (by rw [fmtPre_lit]; rfl)

/-! ### chunks

`hexdump`, and the two reference writers, emit one line per chunk of the data; `chunks` names that division, and
`eq_map_chunks` turns each of the three recursions into a `map` over it.  (A chunk here is the data of one LINE; the groups of `c`
bytes inside a line, which hexdump.py calls chunks as well, occur only as the parameter `c` of `rawSep` and `rawD`.) -/

/-- the chunks of `b`, `l` bytes each (the last one may be shorter), each with its offset counted from `off` -/
def chunks (l off : Nat) (b : Bytes) : List (Nat × Bytes) :=
  (List.range ((b.length + l - 1) / l)).map fun i => (off + i * l, (b.drop (i * l)).take l)

theorem chunks_nil (l off : Nat) : chunks l off [] = [] := by
  cases l with
  | zero => rfl
  | succ l => simp [chunks, Nat.div_eq_of_lt]

theorem chunks_cons (l off : Nat) (b : Bytes) (hl : 0 < l) (hb : b ≠ []) :
    chunks l off b = (off, b.take l) :: chunks l (off + l) (b.drop l) := by
  have hpos : 0 < b.length := List.length_pos_iff.mpr hb
  have hn : (b.length + l - 1) / l = ((b.drop l).length + l - 1) / l + 1 := by
    rw [List.length_drop]
    by_cases hlt : b.length ≤ l
    · rw [Nat.div_eq_of_lt_le (k := 1) (by omega) (by omega), Nat.div_eq_of_lt (by omega)]
    · rw [← Nat.add_div_right _ hl]; congr 1; omega
  simp only [chunks, hn, List.range_succ_eq_map, List.map_cons, List.map_map, Nat.zero_mul, Nat.add_zero, List.drop_zero]
  congr 2
  funext i
  simp only [Function.comp, Nat.succ_mul, List.drop_drop, Nat.add_assoc, Nat.add_comm l]

/-- a renderer that emits one line per chunk and goes on behind it is the map of its line function over the chunks -/
theorem eq_map_chunks {β} {l : Nat} (hl : 0 < l) (f : Nat → Bytes → List β) (g : Nat → Bytes → β)
    (hnil : ∀ off, f off [] = [])
    (hcons : ∀ off b, b ≠ [] → f off b = g off (b.take l) :: f (off + l) (b.drop l)) (off : Nat) (b : Bytes) :
    f off b = (chunks l off b).map fun p => g p.1 p.2 := by
  induction off, b using chunk_induction hl with
  | nil off => rw [hnil, chunks_nil]; rfl
  | cons off b hb ih => rw [hcons off b hb, chunks_cons l off b hl hb, ih]; rfl

theorem chunks_flatMap (l off : Nat) (b : Bytes) (hl : 0 < l) : (chunks l off b).flatMap (·.2) = b := by
  induction off, b using chunk_induction hl with
  | nil off => rw [chunks_nil]; rfl
  | cons off b hb ih => rw [chunks_cons l off b hl hb, List.flatMap_cons, ih, List.take_append_drop]

theorem mem_chunks {l off : Nat} {b : Bytes} {p : Nat × Bytes} (hl : 0 < l) (hp : p ∈ chunks l off b) :
    p.2 ≠ [] ∧ p.2.length ≤ l ∧ p.1 + p.2.length ≤ off + b.length ∧ ∀ x ∈ p.2, x ∈ b := by
  simp only [chunks, List.mem_map, List.mem_range] at hp
  obtain ⟨i, hi, rfl⟩ := hp
  have hil : i * l < b.length := by
    have := (Nat.lt_div_iff_mul_lt hl).mp hi
    omega
  refine ⟨?_, by simp; omega, by simp; omega, fun x hx => List.mem_of_mem_drop (List.mem_of_mem_take hx)⟩
  intro h
  have := congrArg List.length h
  simp at this; omega

theorem length_chunks (l off : Nat) (b : Bytes) : (chunks l off b).length = (b.length + l - 1) / l := by
  simp [chunks]

theorem getElem_chunks (l off : Nat) (b : Bytes) (i : Nat) (h : i < (chunks l off b).length) :
    (chunks l off b)[i] = (off + i * l, (b.drop (i * l)).take l) := by
  simp [chunks]

/-- a map over the chunks, by position: the `i`-th chunk begins `i * l` bytes into the data -/
theorem map_chunks {β} (l off : Nat) (b : Bytes) (g : Nat × Bytes → β) :
    (chunks l off b).map g = (List.range ((b.length + l - 1) / l)).map fun i => g (off + i * l, (b.drop (i * l)).take l) := by
  rw [chunks, List.map_map]; rfl

theorem hexdumpFrom_nil (l c off : Nat) : hexdumpFrom l c off [] = [] := by
  unfold hexdumpFrom; simp

theorem hexdumpFrom_cons (l c off : Nat) (b : Bytes) (hb : b ≠ []) (hl : l ≠ 0) :
    hexdumpFrom l c off b = dumpLine l c off (b.take l) :: hexdumpFrom l c (off + l) (b.drop l) := by
  conv => lhs; unfold hexdumpFrom
  simp [hb, hl]

theorem hexdumpFrom_eq (l c off : Nat) (b : Bytes) (hl : 0 < l) :
    hexdumpFrom l c off b = (chunks l off b).map fun p => dumpLine l c p.1 p.2 :=
  eq_map_chunks hl (hexdumpFrom l c) (dumpLine l c) (hexdumpFrom_nil l c)
    (fun off b hb => hexdumpFrom_cons l c off b hb (by omega)) off b

theorem hexdump_length (l c : Nat) (b : Bytes) (hl : 0 < l) : (hexdump l c b).length = ceilDiv b.length l := by
  rw [hexdump, hexdumpFrom_eq l c 0 b hl, List.length_map, length_chunks, ceilDiv]

theorem hexdump16_length (b : Bytes) : (hexdump16 b).length = ceilDiv b.length 16 :=
  hexdump_length 16 4 b (by omega)

theorem hexdump_getElem (l c : Nat) (b : Bytes) (hl : 0 < l) (i : Nat) (h : i < (hexdump l c b).length) :
    (hexdump l c b)[i] = dumpLine l c (i * l) ((b.drop (i * l)).take l) := by
  simp only [hexdump, hexdumpFrom_eq l c 0 b hl, List.getElem_map, getElem_chunks, Nat.zero_add]

theorem renderBmcFrom_nil (pad : Bool) (off : Nat) : renderBmcFrom pad off [] = [] := by
  unfold renderBmcFrom; simp

theorem renderBmc_nil (pad : Bool) : renderBmc pad [] = [] := renderBmcFrom_nil pad 0

theorem renderPre_nil (pad : Bool) : renderPre pad [] = [] := by
  unfold renderPre; simp

theorem renderBmcFrom_eq (pad : Bool) (off : Nat) (b : Bytes) :
    renderBmcFrom pad off b = (chunks 16 off b).map fun p => bmcLine pad p.1 p.2 :=
  eq_map_chunks (by omega) (renderBmcFrom pad) (bmcLine pad) (renderBmcFrom_nil pad)
    (fun off b hb => by rw [renderBmcFrom]; simp [hb]) off b

theorem renderPre_eq (pad : Bool) (b : Bytes) :
    renderPre pad b = (chunks 16 0 b).map fun p => preLine pad p.2 :=
  eq_map_chunks (by omega) (fun _ => renderPre pad) (fun _ => preLine pad) (fun _ => renderPre_nil pad)
    (fun _ b hb => by rw [renderPre]; simp [hb]) 0 b

/-! ### the line scanner -/

/-- template of a hex column of `n` bytes whose first byte is byte `j` of its line (the counter of `rawSep`): `DD` per byte, `w` spaces
    before every group of `c` bytes but the first of the line -/
def rawD (w c : Nat) : Nat → Nat → Text
  | _, 0 => []
  | j, n+1 => (if j ≠ 0 ∧ j % c = 0 then spaces w else []) ++ [chD, chD] ++ rawD w c (j+1) n

theorem ite_spaces (p : Prop) [Decidable p] (w : Nat) : (if p then spaces w else []) = spaces (if p then w else 0) := by
  split <;> rfl

@[simp] theorem parseGo_nil_line (f : Text) (hi : Option Nat) (acc : Bytes) : parseGo f [] hi acc = acc := by
  cases f <;> simp [parseGo]

/-- the line character `x` passes the template cell `f` and leaves the scanner's state alone: an address cell takes a hex digit,
    a text cell anything, any other character but `D` itself -/
def passes (f x : Nat) : Bool := if f = chA then isHexDigit x else f = chC || (f ≠ chD && f == x)

theorem parseGo_pass {f x : Nat} (h : passes f x = true) (fs ls : Text) (hi : Option Nat) (acc : Bytes) :
    parseGo (f :: fs) (x :: ls) hi acc = parseGo fs ls hi acc := by
  unfold passes at h
  by_cases hA : f = chA
  · subst hA; simp [parseGo, (by simpa using h : isHexDigit x = true)]
  · by_cases hC : f = chC
    · subst hC; simp [parseGo, chC, chA, chD]
    · obtain ⟨hD, rfl⟩ : f ≠ chD ∧ f = x := by simpa [hA, hC] using h
      simp [parseGo, hA, hD, hC]

theorem parseGo_D_space (fs ls : Text) (hi : Option Nat) (acc : Bytes) :
    parseGo (chD :: fs) (32 :: ls) hi acc = acc := by
  simp [parseGo, chD, chA, isHexDigit]

theorem parseGo_byte (fs ls : Text) (b : Nat) (acc : Bytes) (hb : b < 256) :
    parseGo (chD :: chD :: fs) (hexU (b / 16) :: hexU b :: ls) none acc = parseGo fs ls none (acc ++ [b]) := by
  have e : 16 * (b / 16 % 16) + b % 16 = b := by omega
  simp [parseGo, chD, chA, isHexDigit_hexU, hexVal_hexU, e]

/-- the scanner only ever appends to the bytes it was given -/
theorem parseGo_append (fs ls : Text) (hi : Option Nat) (a acc : Bytes) :
    parseGo fs ls hi (a ++ acc) = a ++ parseGo fs ls hi acc := by
  fun_induction parseGo fs ls hi acc <;> simp [parseGo, *]

/-- the line piece passes the template piece, character by character -/
def skips : Text → Text → Bool
  | [], [] => true
  | f :: fs, x :: xs => passes f x && skips fs xs
  | _, _ => false

theorem parseGo_skips : ∀ (P L : Text), skips P L = true → ∀ (F R : Text) (hi : Option Nat) (acc : Bytes),
    parseGo (P ++ F) (L ++ R) hi acc = parseGo F R hi acc
  | [], [], _, F, R, hi, acc => rfl
  | f :: fs, x :: xs, h, F, R, hi, acc => by
    simp only [skips, Bool.and_eq_true] at h
    rw [List.cons_append, List.cons_append, parseGo_pass h.1, parseGo_skips fs xs h.2]
  | [], _ :: _, h, _, _, _, _ => by simp [skips] at h
  | _ :: _, [], h, _, _, _, _ => by simp [skips] at h

theorem skips_append : ∀ (P L P' L' : Text), skips P L = true → skips P' L' = true → skips (P ++ P') (L ++ L') = true
  | [], [], _, _, _, h' => h'
  | f :: fs, x :: xs, P', L', h, h' => by
    simp only [skips, Bool.and_eq_true, List.cons_append] at h ⊢
    exact ⟨h.1, skips_append fs xs P' L' h.2 h'⟩
  | [], _ :: _, _, _, h, _ => by simp [skips] at h
  | _ :: _, [], _, _, h, _ => by simp [skips] at h

theorem skips_addr (cs : Text) (h : ∀ c ∈ cs, isHexDigit c = true) : skips (List.replicate cs.length chA) cs = true := by
  induction cs with
  | nil => rfl
  | cons c cs ih =>
    simp only [List.length_cons, List.replicate_succ, skips, passes, if_true, Bool.and_eq_true]
    exact ⟨h c (by simp), ih (fun x hx => h x (by simp [hx]))⟩

theorem skips_text (cs : Text) : skips (List.replicate cs.length chC) cs = true := by
  induction cs with
  | nil => rfl
  | cons c cs ih => simpa [List.replicate_succ, skips, passes, chC, chA] using ih

theorem skips_lit (t : Text) (h : ∀ c ∈ t, c ≠ chA ∧ c ≠ chD ∧ c ≠ chC) : skips t t = true := by
  induction t with
  | nil => rfl
  | cons c t ih =>
    have hc := h c (by simp)
    simp [skips, passes, hc.1, hc.2.1, ih (fun x hx => h x (by simp [hx]))]

theorem skips_spaces (n : Nat) : skips (spaces n) (spaces n) = true :=
  skips_lit _ (by intro c hc; simp [spaces] at hc; simp [hc.2, chA, chD, chC])

/-- a blank passes a text cell and a blank of the template, and stops the scan anywhere else -/
theorem parseGo_blanks : ∀ (F : Text) (k : Nat) (hi : Option Nat) (acc : Bytes), parseGo F (spaces k) hi acc = acc
  | _, 0, _, _ => parseGo_nil_line _ _ _
  | [], _ + 1, _, _ => rfl
  | f :: fs, k + 1, hi, acc => by
    have ih := parseGo_blanks fs k hi acc
    simp only [spaces, List.replicate_succ] at ih ⊢
    simp only [parseGo, (by decide : isHexDigit 32 = false), Bool.false_eq_true, if_false, ih, ite_self]

/-- a hex column is consumed byte by byte; what is left of the template column meets what follows in the line -/
theorem parseGo_raw (w c : Nat) : ∀ (ck : Bytes) (j n : Nat) (acc : Bytes) (F R : Text),
    (∀ x ∈ ck, x < 256) → ck.length ≤ n →
    parseGo (rawD w c j n ++ F) (rawSep w c j ck ++ R) none acc =
      parseGo (rawD w c (j + ck.length) (n - ck.length) ++ F) R none (acc ++ ck) := by
  intro ck
  induction ck with
  | nil => intro j n acc F R _ _; simp [rawSep]
  | cons b bs ih =>
    intro j n acc F R hb hn
    match n, hn with
    | n+1, hn =>
      simp only [rawD, rawSep, ite_spaces, List.append_assoc, List.cons_append, List.nil_append, List.length_cons]
      rw [parseGo_skips _ _ (skips_spaces _), parseGo_byte _ _ _ _ (hb b (by simp)),
        ih (j+1) n (acc ++ [b]) F R (fun x hx => hb x (by simp [hx])) (by simpa using hn)]
      simp [Nat.add_comm, Nat.add_left_comm]

/-- a data cell behind `m` template blanks meets a blank when the line has more than `m` blanks there -/
theorem parseGo_blank_D : ∀ (m k : Nat) (F R : Text) (hi : Option Nat) (acc : Bytes), m < k →
    parseGo (spaces m ++ chD :: F) (spaces k ++ R) hi acc = acc
  | 0, k + 1, F, R, hi, acc, _ => parseGo_D_space F _ hi acc
  | m + 1, k + 1, F, R, hi, acc, h => by
    have := parseGo_blank_D m k F R hi acc (by omega)
    simp only [spaces, List.replicate_succ, List.cons_append] at this ⊢
    rw [parseGo_pass (by decide), this]

/-- an empty data cell: at least `w+1` blanks where the template column goes on -/
theorem parseGo_rawD_blank (w c j n k : Nat) (F R : Text) (hi : Option Nat) (acc : Bytes) (hk : w < k) :
    parseGo (rawD w c j (n+1) ++ F) (spaces k ++ R) hi acc = acc := by
  simp only [rawD, ite_spaces, List.append_assoc, List.cons_append, List.nil_append]
  exact parseGo_blank_D _ k _ R hi acc (by split <;> omega)

/-! ### length of a hex column -/

theorem rawSep_length_le (w c : Nat) : ∀ (ck : Bytes) (j : Nat),
    (rawSep w c j ck).length ≤ (2 + w) * ck.length := by
  intro ck
  induction ck with
  | nil => intro j; simp [rawSep]
  | cons b bs ih =>
    intro j
    have := ih (j+1)
    simp only [rawSep, List.length_append, List.length_cons, List.length_nil]
    split <;> simp [spaces] <;> rw [Nat.mul_succ] <;> omega

theorem div_pred_step (j c : Nat) (hj : 1 ≤ j) :
    j / c = (j - 1) / c + (if j % c = 0 then 1 else 0) := by
  obtain ⟨k, rfl⟩ : ∃ k, j = k + 1 := ⟨j - 1, by omega⟩
  simp only [Nat.add_sub_cancel]
  by_cases h : (k + 1) % c = 0
  · simp [h, Nat.succ_div_of_mod_eq_zero h]
  · simp [h, Nat.succ_div_of_mod_ne_zero h]

theorem rawSep_length_pos (w c : Nat) : ∀ (ck : Bytes) (j : Nat), 1 ≤ j →
    (rawSep w c j ck).length + w * ((j - 1) / c) = 2 * ck.length + w * ((j + ck.length - 1) / c)
  | [], j, _ => by simp [rawSep]
  | b :: bs, j, hj => by
    have ih := rawSep_length_pos w c bs (j + 1) (by omega)
    -- the blanks in front of byte `j` are what `w * (j / c)` gains over `w * ((j - 1) / c)`
    have hd : w * (j / c) = w * ((j - 1) / c) + (if j ≠ 0 ∧ j % c = 0 then spaces w else []).length := by
      rw [div_pred_step j c hj, Nat.mul_add]
      by_cases h : j % c = 0 <;> simp [h, show j ≠ 0 by omega]
    simp only [rawSep, List.length_append, List.length_cons, List.length_nil, Nat.add_sub_cancel] at ih ⊢
    rw [show j + (bs.length + 1) - 1 = j + 1 + bs.length - 1 by omega]
    omega

theorem rawSep_length_zero (w c : Nat) (ck : Bytes) (h : ck ≠ []) :
    (rawSep w c 0 ck).length = 2 * ck.length + w * ((ck.length - 1) / c) := by
  match ck, h with
  | b :: bs, _ =>
    have h1 := rawSep_length_pos w c bs 1 (by omega)
    rw [show 1 + bs.length - 1 = bs.length by omega] at h1
    simp [rawSep] at h1 ⊢
    omega

theorem ceilDiv_eq (l c : Nat) (hl : 1 ≤ l) (hc : 1 ≤ c) : ceilDiv l c = (l - 1) / c + 1 := by
  unfold ceilDiv
  have : l + c - 1 = (l - 1) + c := by omega
  rw [this, Nat.add_div_right _ (by omega)]

theorem charPerLine_eq (l c : Nat) (hl : 1 ≤ l) (hc : 1 ≤ c) : charPerLine l c = 2 * l + 2 * ((l - 1) / c) := by
  unfold charPerLine
  rw [ceilDiv_eq l c hl hc]; omega

theorem rawFrom_length_le (l c : Nat) (ck : Bytes) (hl : 1 ≤ l) (hc : 1 ≤ c) (hk : ck.length ≤ l) :
    (rawFrom c 0 ck).length ≤ charPerLine l c := by
  rw [charPerLine_eq l c hl hc]
  unfold rawFrom
  by_cases h : ck = []
  · subst h; simp [rawSep]
  · rw [rawSep_length_zero 2 c ck h]
    have : (ck.length - 1) / c ≤ (l - 1) / c := Nat.div_le_div_right (by omega)
    omega

theorem dumpLine_length (l c off : Nat) (ck : Bytes) (hl : 1 ≤ l) (hc : 1 ≤ c) (hk : ck.length ≤ l)
    (hoff : off < 2 ^ 32) : (dumpLine l c off ck).length = 8 + 5 + charPerLine l c + 5 + l := by
  unfold dumpLine
  rw [fmtHex8_eq off hoff]
  have := rawFrom_length_le l c ck hl hc hk
  simp only [List.length_append, hexFix_length, spaces_length, ljust_length, List.length_map]
  omega

/-! ### stripping newlines -/

theorem parseLine_rstrip (fmt line : Text) : parseLine fmt (rstripNL line) = parseLine fmt line := by
  unfold parseLine rstripNL
  rw [rstripChar_idem]

theorem rstripNL_append_of_all_ne (xs ys : Text) (hne : ys ≠ []) (h : ∀ x ∈ ys, x ≠ 10) :
    rstripNL (xs ++ ys) = xs ++ ys := by
  rw [← List.dropLast_concat_getLast hne, ← List.append_assoc]
  exact rstripChar_of_last_ne 10 _ _ (h _ (List.getLast_mem hne))

theorem asciiCell_ne_nl (b : Nat) : asciiCell b ≠ 10 := by
  unfold asciiCell; split <;> omega

theorem ljust_text_all_ne_nl (n : Nat) (ck : Bytes) : ∀ x ∈ ljust n 32 (ck.map asciiCell), x ≠ 10 := by
  intro x hx
  simp only [ljust, List.mem_append, List.mem_map, List.mem_replicate] at hx
  rcases hx with ⟨b, _, rfl⟩ | ⟨_, rfl⟩
  · exact asciiCell_ne_nl b
  · omega

theorem rawSep_all_ne_nl (w c : Nat) : ∀ (ck : Bytes) (j : Nat), ∀ x ∈ rawSep w c j ck, x ≠ 10
  | [], j => by simp [rawSep]
  | b :: bs, j => by
    have hx : ∀ n, hexU n ≠ 10 := fun n h => absurd (h ▸ isHexDigit_hexU n) (by decide)
    simp only [rawSep, ite_spaces, List.forall_mem_append, List.forall_mem_cons, List.not_mem_nil, false_imp_iff, implies_true,
      and_true]
    exact ⟨⟨by simp [spaces]; omega, hx _, hx _⟩, rawSep_all_ne_nl w c bs (j + 1)⟩

theorem rawSep_ne_nil (w c j : Nat) (ck : Bytes) (h : ck ≠ []) : rawSep w c j ck ≠ [] := by
  match ck, h with
  | b :: bs, _ => simp [rawSep]

end Pel
