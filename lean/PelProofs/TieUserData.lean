import PelModel.TransUserData
import PelProofs.TieSections
/-
  Lemmas of the source tie of the byte reader and the user-data sections (PelProps/TieC05.lean, PelProps/TieC04.lean).

  Part A: the methods of pel/datastream.py in the object view (`DS.checkRange`, `DS.incIndex`, `DS.getMem`, `DS.getInt` of
  PelModel/TransUserData.lean: data, size and a cursor, Python integers) refine the model's reader over the bytes not consumed yet.
  Part B, for the ties of `parse` / `parseCustom` in PelProps/TieC04.lean: how a program of the exception-and-state monad `PyM` runs,
  the module table keyed by full module names, the character loop of the built-in text format, and what `parseCustom` returns once
  the module is known (`customOutcome`, read off `parseUserData`).
-/
namespace Pel

/-! ### Part A: datastream.py -/

theorem pySlice_inrange {α} (l : List α) (a b : Int) (ha : 0 ≤ a) (hab : a ≤ b) (hb : b ≤ l.length) :
    pySlice l a b = (l.drop a.toNat).take (b - a).toNat := by
  unfold pySlice pyIdx
  rw [if_neg (by omega), if_neg (by omega), Nat.min_eq_left (by omega), Nat.min_eq_left (by omega), List.drop_take]
  congr 1
  omega

theorem DS.rest_length (d : DS) (hd : d.Inv) : (d.rest.length : Int) = d.size - d.index := by
  obtain ⟨h1, h2, h3⟩ := hd
  unfold DS.rest
  rw [List.length_drop]
  omega

theorem DS.init_inv (data : Bytes) (bo : Option Text) (sg : Option Bool) : (DS.init data bo sg).Inv :=
  ⟨rfl, Int.le_refl 0, Int.natCast_nonneg _⟩

theorem DS.init_rest (data : Bytes) (bo : Option Text) (sg : Option Bool) : (DS.init data bo sg).rest = data := rfl

theorem assertionErr_range : assertionErr (s "range check failure") = .range := if_pos rfl
theorem assertionErr_assert : assertionErr (s "must provide a positive, non-zero integer") = .assert := by
  unfold assertionErr
  rw [if_neg (by simp only [s_eq_iff, String.reduceEq, not_false_eq_true]), if_pos rfl]

/-! how the building blocks of a method run on an object (`PyM` below has the same rules) -/
theorem DsM.pure_run {α} (a : α) (d : DS) : (pure a : DsM α) d = .ok (a, d) := rfl
theorem DsM.fld_run {α} (f : DS → α) (d : DS) : DsM.fld f d = .ok (f d, d) := rfl
theorem DsM.upd_run (f : DS → DS) (d : DS) : DsM.upd f d = .ok ((), f d) := rfl
theorem DsM.raise_run {α} (e : Err) (d : DS) : (DsM.raise e : DsM α) d = .error e := rfl

/-- what every consuming method does: the two checks, then the cursor moves over the next `n` bytes, which are handed on -/
def DS.advance (n : Int) (d : DS) : Except Err (Bytes × DS) :=
  if 0 < n then
    if d.index + n ≤ d.size then .ok (pySlice d.data d.index (d.index + n), { d with index := d.index + n }) else .error .range
  else .error .assert

theorem DS.checkRange_run (opt : Bool) (n : Int) (d : DS) :
    DS.checkRange opt n d = if 0 < n then .ok (decide (d.index + n ≤ d.size), d) else .error .assert := by
  unfold DS.checkRange
  by_cases h : 0 < n
  · simp only [h, not_true_eq_false, if_false, if_true, stateT_bind_run, DsM.fld_run, DsM.pure_run]
    by_cases h2 : d.index + n ≤ d.size <;> simp only [h2, if_true, if_false, decide_true, decide_false]
  · simp only [h, not_false_eq_true, if_true, if_false, assertionErr_assert, DsM.raise_run]

theorem DS.incIndex_run (opt : Bool) (n : Int) (d : DS) :
    DS.incIndex opt n d = (DS.advance n d).map fun p => ((), p.2) := by
  unfold DS.incIndex DS.advance
  rw [stateT_bind_run, DS.checkRange_run]
  by_cases h : 0 < n
  · by_cases h2 : d.index + n ≤ d.size <;>
      simp only [h, h2, if_true, if_false, decide_true, decide_false, not_true_eq_false, not_false_eq_true, Bool.false_eq_true,
        stateT_bind_run, DsM.fld_run, DsM.upd_run, DsM.pure_run, DsM.raise_run, assertionErr_range, Except.map]
  · simp only [h, if_false, Except.map]

theorem DS.getMem_run (opt : Bool) (n : Int) (d : DS) : DS.getMem opt n d = DS.advance n d := by
  unfold DS.getMem
  rw [stateT_bind_run, DS.checkRange_run]
  unfold DS.advance
  by_cases h : 0 < n
  · by_cases h2 : d.index + n ≤ d.size <;>
      simp only [h, h2, if_true, if_false, decide_true, decide_false, not_true_eq_false, not_false_eq_true, Bool.false_eq_true,
        stateT_bind_run, DsM.fld_run, DsM.pure_run, DsM.raise_run, assertionErr_range, DS.incIndex_run, DS.advance, Except.map]
  · simp only [h, if_false]

theorem pyAssert_run (opt : Bool) (c : Prop) [Decidable c] (msg : Text) (d : DS) (h : c) : pyAssert opt c msg d = .ok ((), d) := by
  unfold pyAssert
  cases opt
  · rw [if_neg Bool.false_ne_true, if_pos h]; rfl
  · rfl

theorem intFromBytes_big (b : Bytes) : intFromBytes b (some (s "big")) (some false) = .ok (fromBE b : Int) := by
  unfold intFromBytes
  simp

/-- `get_int` on a stream constructed big-endian and unsigned: the two `assert` statements hold, so with or without `-O` it is
    `get_mem` followed by the big-endian value -/
theorem DS.getInt_run (opt : Bool) (n : Int) (d : DS) (hb : d.byteOrder = some (s "big")) (hs : d.isSigned = some false) :
    DS.getInt opt n d = (DS.advance n d).map fun p => ((fromBE p.1 : Int), p.2) := by
  unfold DS.getInt
  simp only [if_true, stateT_bind_run, DsM.fld_run, hb, hs, pyAssert_run _ _ _ _ (Option.some_ne_none _).symm, DS.getMem_run]
  cases DS.advance n d with
  | error e => rfl
  | ok p => simp only [DsM.ofExcept, intFromBytes_big, Except.map]

/-- ★ the refinement, once for all consuming methods: a method that runs as `advance n` and hands on `f` of the bytes IS the model's
    `getMem n.toNat` followed by `f`, on the bytes not consumed yet (same value, same rest, same error kind; `n ≤ 0` is `Int.toNat n = 0`),
    and it keeps the invariant and everything but the cursor -/
theorem DsM.refines_of_advance {α} (p : DsM α) (f : Bytes → α) (n : Int) (d : DS) (hd : d.Inv)
    (hp : p d = (DS.advance n d).map fun q => (f q.1, q.2)) :
    p.abs d = (Pel.getMem n.toNat >>= fun m => pure (f m)) d.rest ∧ p.Frame d := by
  have hl := DS.rest_length d hd
  obtain ⟨h1, h2, h3⟩ := hd
  unfold DsM.abs DsM.Frame
  rw [hp, stateT_bind_run]
  unfold DS.advance Pel.getMem
  by_cases h : 0 < n
  · rw [if_pos h, if_neg (show ¬ n.toNat = 0 by omega)]
    by_cases hr : d.index + n ≤ d.size
    · rw [if_pos hr, if_pos (show n.toNat ≤ d.rest.length by omega)]
      refine ⟨?_, ?_⟩
      · rw [pySlice_inrange d.data d.index (d.index + n) h2 (by omega) (by omega)]
        simp only [Except.map, DS.rest, show (d.index + n - d.index).toNat = n.toNat by omega,
          show (d.index + n).toNat = d.index.toNat + n.toNat by omega, List.drop_drop]
        rfl
      · intro a d' he
        cases he
        exact ⟨⟨h1, by show 0 ≤ d.index + n; omega, hr⟩, rfl, rfl, rfl, rfl⟩
    · rw [if_neg hr, if_neg (show ¬ n.toNat ≤ d.rest.length by omega)]
      exact ⟨rfl, fun _ _ he => nomatch he⟩
  · rw [if_neg h, if_pos (show n.toNat = 0 by omega)]
    exact ⟨rfl, fun _ _ he => nomatch he⟩

/-- `check_range(n)`: an AssertionError for `n ≤ 0` (a `raise`, not an `assert`: also under `-O`), else whether `n` bytes remain;
    nothing is consumed -/
theorem DS.checkRange_abs (opt : Bool) (n : Int) (d : DS) (hd : d.Inv) :
    DS.checkRange opt n d = if n.toNat = 0 then .error .assert else .ok (decide (n.toNat ≤ d.rest.length), d) := by
  have hl := DS.rest_length d hd
  rw [DS.checkRange_run]
  by_cases h : 0 < n
  · rw [if_pos h, if_neg (show ¬ n.toNat = 0 by omega)]
    congr 3
    exact propext ⟨fun _ => by omega, fun _ => by omega⟩
  · rw [if_neg h, if_pos (show n.toNat = 0 by omega)]

/-- `inc_index(n)` skips what `get_mem(n)` would return -/
theorem DS.incIndex_refines (opt : Bool) (n : Int) (d : DS) (hd : d.Inv) :
    (DS.incIndex opt n).abs d = (Pel.getMem n.toNat >>= fun _ => pure ()) d.rest ∧ (DS.incIndex opt n).Frame d :=
  DsM.refines_of_advance _ (fun _ => ()) n d hd (DS.incIndex_run opt n d)

/-- ★ `get_mem(n)` is the model's `getMem` on the bytes not consumed yet, for every Python integer `n` (negative counts included:
    the model's truncated `h.len - 8` is `Int.toNat`) and with or without `-O` -/
theorem DS.getMem_refines (opt : Bool) (n : Int) (d : DS) (hd : d.Inv) :
    (DS.getMem opt n).abs d = Pel.getMem n.toNat d.rest ∧ (DS.getMem opt n).Frame d := by
  have h := DsM.refines_of_advance _ id n d hd ((DS.getMem_run opt n d).trans (by cases DS.advance n d <;> rfl))
  rwa [show (fun m : Bytes => (pure (id m) : Rd Bytes)) = pure from rfl, bind_pure] at h

/-- ★ `get_int(n)` on a stream constructed big-endian and unsigned (what every decoder constructs: `Tie.dsCtorArgs`) is the model's
    `getInt`; the two `assert` statements of `get_int` are no checks the result depends on (`opt` is arbitrary) -/
theorem DS.getInt_refines (opt : Bool) (n : Int) (d : DS) (hd : d.Inv) (hb : d.byteOrder = some (s "big")) (hs : d.isSigned = some false) :
    (DS.getInt opt n).abs d = (Pel.getInt n.toNat >>= fun v => pure (v : Int)) d.rest ∧ (DS.getInt opt n).Frame d := by
  have h := DsM.refines_of_advance _ (fun m => (fromBE m : Int)) n d hd (DS.getInt_run opt n d hb hs)
  rwa [show (Pel.getMem n.toNat >>= fun m => (pure (fromBE m : Int) : Rd Int)) = (Pel.getInt n.toNat >>= fun v => pure (v : Int)) by
    simp only [Pel.getInt, bind_assoc, pure_bind]] at h

/-! ### Part B: parse_user_data.py -/

@[simp] theorem PyM.pure_bind' {α β} (a : α) (f : α → PyM β) : (PyM.pure a).bind f = f a := by funext c; rfl
@[simp] theorem PyM.raise_bind' {α β} (e : PyExc) (f : α → PyM β) : (PyM.raise e : PyM α).bind f = PyM.raise e := by funext c; rfl
@[simp] theorem PyM.pure_run {α} (a : α) (c : Cache UdPlugin) : PyM.pure a c = (.ok a, c) := rfl
@[simp] theorem PyM.raise_run {α} (e : PyExc) (c : Cache UdPlugin) : (PyM.raise e : PyM α) c = (.error e, c) := rfl

theorem PyM.bind_run {α β} (x : PyM α) (f : α → PyM β) (c : Cache UdPlugin) :
    (x.bind f) c = match x c with | (.ok a, c') => f a c' | (.error e, c') => (.error e, c') := rfl
theorem pyTry_run {α} (body : PyM α) (p : PyExc → Bool) (hd : PyExc → PyM α) (c : Cache UdPlugin) :
    pyTry body p hd c = match body c with | (.ok a, c') => (.ok a, c') | (.error e, c') => if p e then hd e c' else (.error e, c') := rfl
theorem PyM.bind_run' {α β} (x : PyM α) (f : α → PyM β) (c : Cache UdPlugin) :
    (x >>= f) c = match x c with | (.ok a, c') => f a c' | (.error e, c') => (.error e, c') := PyM.bind_run x f c
/-- the run of a bind whose first part is known: `rw` with it leaves `hx` as a goal about the term found in place -/
theorem PyM.bind_run_of_eq {α β} {x : PyM α} {f : α → PyM β} {c : Cache UdPlugin} {r : Except PyExc α × Cache UdPlugin} (hx : x c = r) :
    (x >>= f) c = match (generalizing := false) r with | (.ok a, c') => f a c' | (.error e, c') => (.error e, c') := by
  rw [PyM.bind_run', hx]
theorem PyM.pure_run' {α} (a : α) (c : Cache UdPlugin) : (pure a : PyM α) c = (.ok a, c) := rfl
theorem PyM.bind_pure_run {α} (x : PyM α) (c : Cache UdPlugin) : (x >>= fun a => pure a) c = x c := by
  rw [PyM.bind_run']
  rcases x c with ⟨_ | _, _⟩ <;> rfl

/-- the character loop of the built-in text format, written as a left fold with the state (line so far, finished lines) -/
theorem textLoop_eq (step : Text × List Text → Nat → Text × List Text)
    (hstep : ∀ p c, step p c = if c ≠ 10 then (p.1 ++ [if c < 32 ∨ c > 126 then 46 else c], p.2) else ([], p.2 ++ [p.1])) :
    ∀ (t line : Text) (lines : List Text),
      (if (t.foldl step (line, lines)).1 ≠ [] then (t.foldl step (line, lines)).2 ++ [(t.foldl step (line, lines)).1]
        else (t.foldl step (line, lines)).2) = lines ++ textLinesGo t line := by
  intro t
  induction t with
  | nil =>
    intro line lines
    simp only [List.foldl_nil, textLinesGo]
    by_cases h : line = [] <;> simp [h]
  | cons ch r ih =>
    intro line lines
    simp only [List.foldl_cons, hstep, textLinesGo]
    by_cases hc : ch = 10
    · simp only [hc, ne_eq, not_true_eq_false, if_false]
      rw [ih]
      simp
    · simp only [hc, ne_eq, not_false_eq_true, if_true]
      exact ih _ _

/-- the module table as the code keeps it: keyed by the full module name -/
def fullKeys (c : Cache UdPlugin) : Cache UdPlugin := c.map (fun p => (udFullName p.1, p.2))

theorem udShortName_full (n : Text) : udShortName (udFullName n) = some n := by
  unfold udShortName udFullName
  simp only [List.append_assoc]
  have hp : (s "udparsers.").isPrefixOf (s "udparsers." ++ (n ++ (s "." ++ n))) = true :=
    List.isPrefixOf_iff_prefix.mpr (List.prefix_append _ _)
  simp only [hp, if_true, List.drop_left']
  have hl : ((n ++ (s "." ++ n)).length - 1) / 2 = n.length := by
    have : s "." = [46] := s_ofList _
    simp only [List.length_append, this, List.length_singleton]
    omega
  rw [hl, List.take_left' rfl]
  simp

theorem udFullName_inj (n m : Text) (h : udFullName n = udFullName m) : n = m :=
  Option.some.inj (by rw [← udShortName_full n, h, udShortName_full])

theorem cacheGet_full (c : Cache UdPlugin) (n : Text) : cacheGet (fullKeys c) (udFullName n) = cacheGet c n := by
  unfold cacheGet fullKeys
  induction c with
  | nil => rfl
  | cons p r ih =>
    simp only [List.map_cons, List.find?_cons]
    by_cases h : p.1 = n
    · have h1 : (udFullName p.1 == udFullName n) = true := by simp [h]
      have h2 : (p.1 == n) = true := by simp [h]
      simp only [h1, h2, Option.map_some]
    · have h1 : (udFullName p.1 == udFullName n) = false := by
        simp only [beq_eq_false_iff_ne, ne_eq]; exact fun e => h (udFullName_inj _ _ e)
      have h2 : (p.1 == n) = false := by simp [h]
      simp only [h1, h2]; exact ih
theorem cacheHas_full (c : Cache UdPlugin) (n : Text) :
    cacheHas (udFullName n) (fullKeys c) = (.ok (cacheGet c n).isSome, fullKeys c) := by
  unfold cacheHas; rw [cacheGet_full]
theorem cacheLoad_full (c : Cache UdPlugin) (n : Text) :
    cacheLoad (udFullName n) (fullKeys c) = match cacheGet c n with
      | some v => (.ok v, fullKeys c)
      | none => (.error ⟨.exception, udFullName n⟩, fullKeys c) := by
  unfold cacheLoad; rw [cacheGet_full]; cases cacheGet c n <;> rfl
theorem cacheStore_full (c : Cache UdPlugin) (n : Text) (v : Option UdPlugin) :
    cacheStore (udFullName n) v (fullKeys c) = (.ok (), fullKeys ((n, v) :: c)) := rfl
theorem udImport_full (env : UdEnv) (n : Text) (c' : Cache UdPlugin) :
    udImport env (udFullName n) c' = match env n with
      | .absent => (.error ⟨.importError, udFullName n⟩, c')
      | .importRaises msg => (.error ⟨.exception, msg⟩, c')
      | b => (.ok b, c') := by
  unfold udImport; rw [udShortName_full]; dsimp only; cases env n <;> rfl

/-- the key the code computes, in append-normal form -/
theorem udKey_norm (creator : Text) (comp : Nat) :
    s "udparsers." ++ (List.map toLowerAscii (List.map toLowerAscii creator ++ fmtHex 4 comp) ++
      (s "." ++ List.map toLowerAscii (List.map toLowerAscii creator ++ fmtHex 4 comp))) = udFullName (udModuleName creator comp) := by
  simp only [udFullName, udModuleName, List.append_assoc]

/-- a module object in the table is a module (`absent` / `importRaises` describe imports that yield none).  A hypothesis of the ties of
    `parseCustom` / `parse`, proved here of the empty table only (`cacheModulesOk_nil`).  For the tables the rules can produce,
    `C19.cache_contents` proves `UdEntryOk` of every `(n, v)` in the table, and the case `v = some b` of `UdEntryOk` holds these two
    conjuncts; the step from membership to `cacheGet` is written down nowhere. -/
def CacheModulesOk (c : Cache UdPlugin) : Prop :=
  ∀ n b, cacheGet c n = some (some b) → b ≠ .absent ∧ ∀ msg, b ≠ .importRaises msg

def failedNote (creator : Text) (comp sub ver : Nat) (msg : Text) : Text :=
  s "Failed parsing user data for creator=" ++ creator ++ s " compID=0x" ++ fmtHex 4 comp ++
    s " subType=0x" ++ fmtHex 1 sub ++ s " version=" ++ natDec ver ++ s " Exception=" ++ msg

/-- `parseCustom` once `cls` is known (for a payload that is not empty), read off `parseUserData` of the model -/
def customOutcome (b : UdPlugin) (creator : Text) (comp sub ver : Nat) (data : Bytes) : Except PyExc (Option PyStr) :=
  match b with
  | .absent => .ok (some (.dumps (hexdumpJ data)))
  | .echo => .ok (some (.dumps (.obj [kv "subType" (jnum sub), kv "version" (jnum ver), kv "data" (jstr (bytesHexL data))])))
  | .raises msg => .ok (some (.dumps (errorWithData (failedNote creator comp sub ver msg) data)))
  | .importRaises msg => .ok (some (.dumps (errorWithData (failedNote creator comp sub ver msg) data)))
  | .returnsNone => .ok none
  | .returnsText t => .ok (some (.raw t))

theorem udLookup_nil_fst (penv : ProcEnv) (n : Text) : (udLookup penv [] n).1 = penv.ud n := by
  unfold udLookup cacheGet
  simp only [List.find?_nil, Option.map_none]
  cases penv.ud n <;> rfl

theorem cacheModulesOk_nil : CacheModulesOk [] := by
  intro n b h
  simp [cacheGet] at h

end Pel
