import PelProofs.Basic
import PelProofs.TieDirModesAttr
import PelModel.TransDirModes
import PelProofs.JsonAlign
import PelProofs.JsonObj
import PelProofs.FileList
import PelProofs.FramesSrc
import PelProofs.Main
import PelProofs.Cli
/-
  Lemmas of the source tie of stream `dirmodes` (harness/trans_dirmodes.py → PelGen/GenDirModes.lean; the ties are in
  PelProps/TieC08.lean, TieC09.lean, TieC10.lean; the method at length: docs/translators/T8.md).  A generated function is a program of
  the output monad `OutM` (PelModel/TransDirModes.lean); a tie proof does not depend on its SHAPE:

  1. the simp set `outm` RUNS it on a symbolic state.  The `*_apply` equations are `↓` (pre) lemmas, so a program is evaluated along
     the path it takes: the branch of an `if` that is not taken, and the continuation of a `>>=` before its argument is known, are
     never visited (`↓reduceIte` does the same for `if`: give it with every call).  Once the model's answer for a file (`summaryOf` /
     `parsePEL` / the header readers) and the facts that decide the conditions are fixed, the body of a per-file loop evaluates to
     one (control, state) pair.  `OutM.run` / `OutM.result` / `OutM.value`, which start a run, have no equation in `outm`: a tie
     unfolds them by name.  A primitive without an `_apply` equation stops the run where it stands and without a message: `simp`
     leaves the program in the goal, and it is the step after it that fails.  `forEach_cons` is kept out of `outm`: the list of a
     loop is a variable, so a loop is not run but replaced whole (3.).  The keys of `parsePELSummary` stand in the generated term as
     code points; the simp set `pykeys` folds them back into the literals of the model;
  2. that pair is compared (simp set `dmout`) with a semantic step written by hand — for the loops over the file list `fileStep r on`:
     the file is selected (`r f = .some x`, and then acts by `on`), skipped, or one diagnostic — so any program with the same effect
     passes;
  3. `forEach_cons_on` / `forEach_cons_out` / `forEach_cons_exc` say what one pass does to a loop; `forEach_files`, `forEach_fold`,
     `forEach_find`, `bmc_loop`, `sum_loop` turn "every pass is this step" into what the loop leaves: the fold of `on` over
     `okList r files` with `countDiag (files.map r)` diagnostics, a `find?`, the model's recursion.  `okList_of_filterMap` and
     `countDiag_of_map` identify that with the `map` / `filterMap` form of a model mode; the three modes that print summaries are
     `sumOut` of their classifier.
-/
namespace Pel.TieDM

variable {σ σ' α β ρ : Type}

/-! ### running a program -/

@[outm ↓] theorem pure_apply (a : α) (st : PySt σ) : (pure a : OutM σ α) st = (.ok a, st) := rfl
@[outm ↓] theorem bind_apply (x : OutM σ α) (f : α → OutM σ β) (st : PySt σ) :
    (x >>= f) st = match x st with
      | (.ok a, st') => f a st'
      | (.exc, st') => (.exc, st')
      | (.exit n, st') => (.exit n, st') := rfl
@[outm ↓] theorem print_apply (t : Text) (st : PySt σ) : (OutM.print t : OutM σ Unit) st = (.ok (), { st with out := st.out ++ t ++ nl }) := rfl
@[outm ↓] theorem printEnd_apply (t e : Text) (st : PySt σ) : (OutM.printEnd t e : OutM σ Unit) st = (.ok (), { st with out := st.out ++ t ++ e }) := rfl
@[outm ↓] theorem diag_apply (st : PySt σ) : (OutM.diag : OutM σ Unit) st = (.ok (), { st with errs := st.errs + 1 }) := rfl
@[outm ↓] theorem raise_apply (st : PySt σ) : (OutM.raise : OutM σ α) st = (.exc, st) := rfl
@[outm ↓] theorem sysExit_apply (n : Nat) (st : PySt σ) : (OutM.sysExit n : OutM σ α) st = (.exit n, st) := rfl
@[outm ↓] theorem sysExitMsg_apply (st : PySt σ) : (OutM.sysExitMsg : OutM σ α) st = (.exit 1, { st with errs := st.errs + 1 }) := rfl
@[outm ↓] theorem getL_apply (st : PySt σ) : (OutM.getL : OutM σ σ) st = (.ok st.loc, st) := rfl
@[outm ↓] theorem modL_apply (f : σ → σ) (st : PySt σ) : (OutM.modL f : OutM σ Unit) st = (.ok (), { st with loc := f st.loc }) := rfl
@[outm ↓] theorem tryExcept_apply (b h : OutM σ α) (st : PySt σ) :
    OutM.tryExcept b h st = match b st with
      | (.exc, st') => h st'
      | r => r := rfl
@[outm ↓] theorem seqC_apply (a b : OutM σ (Ctl ρ)) (st : PySt σ) :
    seqC a b st = match a st with
      | (.ok .next, st') => b st'
      | r => r := rfl
@[outm ↓] theorem call_apply (init : σ') (body : OutM σ' (Ctl ρ)) (st : PySt σ) :
    (OutM.call init body : OutM σ ρ) st = match body { loc := init, out := st.out, errs := st.errs } with
      | (.ok (.ret r), st') => (.ok r, { st with out := st'.out, errs := st'.errs })
      | (.ok _, st') => (.exc, { st with out := st'.out, errs := st'.errs })
      | (.exc, st') => (.exc, { st with out := st'.out, errs := st'.errs })
      | (.exit n, st') => (.exit n, { st with out := st'.out, errs := st'.errs }) := rfl
@[outm ↓] theorem ite_app {c : Prop} [Decidable c] (a b : OutM σ α) (st : PySt σ) : (if c then a else b) st = if c then a st else b st :=
  apply_ite (· st) c a b
@[outm ↓] theorem forEach_nil (body : α → OutM σ (Ctl ρ)) (st : PySt σ) : forEach [] body st = (.ok .next, st) := rfl
theorem forEach_cons (x : α) (xs : List α) (body : α → OutM σ (Ctl ρ)) (st : PySt σ) :
    forEach (x :: xs) body st = match body x st with
      | (.ok .next, st') => forEach xs body st'
      | (.ok .cont, st') => forEach xs body st'
      | (.ok .brk, st') => (.ok .next, st')
      | r => r := rfl

@[outm ↓] theorem pyOptStr_some (t : Text) (st : PySt σ) : (pyOptStr (some t) : OutM σ Text) st = (.ok t, st) := rfl
@[outm ↓] theorem pyOptStr_none (st : PySt σ) : (pyOptStr none : OutM σ Text) st = (.exc, st) := rfl
@[outm ↓] theorem pyDeref_some (a : α) (st : PySt σ) : (pyDeref (some a) : OutM σ α) st = (.ok a, st) := rfl
@[outm ↓] theorem pyDeref_none (st : PySt σ) : (pyDeref (none : Option α) : OutM σ α) st = (.exc, st) := rfl
@[outm ↓] theorem pyAsStr_str (t : Text) (st : PySt σ) : (pyAsStr (.str t) : OutM σ Text) st = (.ok t, st) := rfl
@[outm ↓] theorem pyStrIn_str (n t : Text) (st : PySt σ) : (pyStrIn n (.str t) : OutM σ Bool) st = (.ok (isInfix n t), st) := rfl
@[outm ↓] theorem pyGetItem_str (t k : Text) (st : PySt σ) : (pyGetItem (.str t) k : OutM σ J) st = (.exc, st) := rfl

attribute [outm] Bool.not_true Bool.not_false Bool.false_eq_true List.isEmpty_nil ne_eq not_true_eq_false not_false_eq_true

/-! the same for the readers of the model (`Rd`), which the primitives below run -/

attribute [outm ↓] stateT_bind_run
@[outm ↓] theorem rd_pure_apply {α : Type} (a : α) (b : Bytes) : (pure a : Rd α) b = .ok (a, b) := rfl
@[outm ↓] theorem rd_ite_app {c : Prop} [Decidable c] (x y : Rd α) (b : Bytes) : (if c then x else y) b = if c then x b else y b :=
  apply_ite (· b) c x y
@[outm ↓] theorem rd_map_apply (f : α → β) (r : Rd α) (b : Bytes) :
    (f <$> r) b = match r b with
      | .ok p => .ok (f p.1, p.2)
      | .error e => .error e := by
  simp only [Functor.map, StateT.map, Except.bind, bind, Except.pure, pure]
  cases r b <;> rfl
@[outm ↓] theorem namedBy_apply (T : Tables) (h : SecHdr) (rd : Rd J) (b : Bytes) :
    namedBy T h rd b = match rd b with
      | .ok p => .ok ((sectionName T h.id, p.1), p.2)
      | .error e => .error e := by
  unfold namedBy
  rw [stateT_bind_run]
  cases rd b <;> rfl
@[outm ↓] theorem secHdr_eta (h : SecHdr) : SecHdr.mk h.id h.len h.ver h.sub h.comp = h := rfl

/-! what the primitives return, in the answers of the model that the modes tell apart -/

@[outm ↓] theorem pyRd_apply (r : Rd α) (b : Bytes) (st : PySt σ) :
    (pyRd r b : OutM σ (α × Bytes)) st = match r b with
      | .ok x => (.ok x, st)
      | .error _ => (.exc, st) := by
  unfold pyRd
  cases r b <;> rfl

@[outm ↓] theorem pyRdL_apply (r : Rd α) (get : σ → Bytes) (set : σ → Bytes → σ) (st : PySt σ) :
    (pyRdL r get set : OutM σ α) st = match r (get st.loc) with
      | .ok (a, b) => (.ok a, { st with loc := set st.loc b })
      | .error _ => (.exc, st) := by
  unfold pyRdL
  cases r (get st.loc) <;> rfl

@[outm ↓] theorem pyGetItem_apply (j : J) (k : Text) (st : PySt σ) :
    (pyGetItem j k : OutM σ J) st = match jItem k j with
      | some v => (.ok v, st)
      | none => (.exc, st) := by
  unfold pyGetItem
  cases jItem k j <;> rfl

@[outm ↓] theorem pyStrIn_apply (k : Text) (j : J) (st : PySt σ) :
    (pyStrIn k j : OutM σ Bool) st = match jIn k j with
      | some b => (.ok b, st)
      | none => (.exc, st) := by
  unfold pyStrIn
  cases jIn k j <;> rfl

@[outm] theorem jItem_obj (k : Text) (l : List (Text × J)) : jItem k (.obj l) = objGet? l k := rfl
@[outm] theorem jIn_obj (k : Text) (l : List (Text × J)) : jIn k (.obj l) = some (objGet? l k).isSome := rfl
@[outm] theorem jIn_str (k t : Text) : jIn k (.str t) = some (isInfix k t) := rfl
theorem objGet?_cons (k' k : Text) (v : J) (r : List (Text × J)) :
    objGet? ((k', v) :: r) k = if k' = k then some v else objGet? r k := rfl

@[outm ↓] theorem pyProcessId_apply (x : Text) (st : PySt σ) :
    (pyProcessId x : OutM σ Text) st = match processId x with
      | some v => (.ok v, st)
      | none => (.exit 1, { st with errs := st.errs + 1 }) := by
  unfold pyProcessId
  cases processId x <;> rfl

@[outm ↓] theorem pyParsePELSummary_apply (env : Env) (c : DirCfg) (f : FileEntry) (st : PySt σ) :
    (pyParsePELSummary env c f.data : OutM σ (Text × J)) st = match summaryOf env c.selCfg f with
      | .some (sm, _, _) => (.ok (sm.eid, .obj sm.fields), st)
      | .skip => (.ok ([], .str []), st)
      | .diag => (.exc, st) := by
  unfold pyParsePELSummary summaryOf
  cases parseSummary env c.selCfg f.data <;> rfl

@[outm ↓] theorem pyParsePEL_apply (env : Env) (c : DirCfg) (w : Nat) (f : FileEntry) (x : Bool) (st : PySt σ) :
    (pyParsePEL env c w f.data x : OutM σ (Text × Text)) st = match parsePEL env c.selCfg f.data with
      | .doc eid j => (.ok (eid, prettyPrint w (dumps j)), st)
      | .filtered => (.ok ([], []), st)
      | .badHeader => if x then (.exit 1, st) else (.ok ([], []), st)
      | .error _ => (.exc, st) := by
  unfold pyParsePEL
  cases parsePEL env c.selCfg f.data <;> (try cases x) <;> rfl

/-- `int(<the text of the summary's PLID member>, 16)` is the number it was printed from -/
@[outm ↓] theorem pyIntHex_ox_fmtHex (w v : Nat) (st : PySt σ) : (pyIntHex (ox (fmtHex w v)) : OutM σ Nat) st = (.ok v, st) := by
  have h1 : (s "0x").isPrefixOf (ox (fmtHex w v)) = true := by simp [ox]
  have h2 : (ox (fmtHex w v)).drop 2 = fmtHex w v := by rw [ox, s_0x]; rfl
  have h3 : fmtHex w v ≠ [] := by
    intro h
    have h0 := congrArg List.length h
    have := hexLen_pos v
    simp only [fmtHex, hexFix_length, List.length_nil] at h0
    omega
  have h4 : (fmtHex w v).all isHexDigit = true := List.all_eq_true.2 (hexFix_all_hex _ _)
  unfold pyIntHex
  simp only [h1, Bool.true_or, if_true, h2]
  simp [h3, h4, parseHexText_fmtHex, pure_apply]

/-! ### loops -/

/-- inside a loop `continue` and reaching the end of the body are the same -/
def loopView : PyRes (Ctl ρ) × PySt σ → PyRes (Ctl ρ) × PySt σ
  | (.ok .cont, st) => (.ok .next, st)
  | r => r

@[outm] theorem loopView_next (st : PySt σ) : loopView ((.ok .next, st) : PyRes (Ctl ρ) × PySt σ) = (.ok .next, st) := rfl
@[outm] theorem loopView_cont (st : PySt σ) : loopView ((.ok .cont, st) : PyRes (Ctl ρ) × PySt σ) = (.ok .next, st) := rfl

theorem forEach_cons_on {x : α} {xs : List α} {body : α → OutM σ (Ctl ρ)} {st st' : PySt σ}
    (h : loopView (body x st) = (.ok .next, st')) : forEach (x :: xs) body st = forEach xs body st' := by
  rw [forEach_cons]
  generalize body x st = r at h
  obtain ⟨r1, r2⟩ := r
  cases r1 with
  | ok c => cases c <;> simp_all [loopView]
  | exc => simp [loopView] at h
  | exit n => simp [loopView] at h

theorem forEach_cons_out {x : α} {xs : List α} {body : α → OutM σ (Ctl ρ)} {st st' : PySt σ}
    (h : body x st = (.ok .brk, st')) : forEach (x :: xs) body st = (.ok .next, st') := by
  rw [forEach_cons, h]

theorem forEach_cons_exc {x : α} {xs : List α} {body : α → OutM σ (Ctl ρ)} {st : PySt σ}
    (h : (body x st).1 = .exc) : forEach (x :: xs) body st = body x st := by
  rw [forEach_cons]
  generalize body x st = r at h
  obtain ⟨r1, r2⟩ := r
  cases h
  rfl

theorem forEach_fold (l : List α) (body : α → OutM σ (Ctl ρ)) (step : α → PySt σ → PySt σ)
    (h : ∀ x st, loopView (body x st) = (.ok .next, step x st)) (st : PySt σ) :
    forEach l body st = (.ok .next, l.foldl (fun s x => step x s) st) := by
  induction l generalizing st with
  | nil => rfl
  | cons x xs ih => rw [forEach_cons_on (h x st), ih, List.foldl_cons]

theorem seqC_forEach_fold (l : List α) (body : α → OutM σ (Ctl ρ)) (step : α → PySt σ → PySt σ)
    (h : ∀ x st, loopView (body x st) = (.ok .next, step x st)) (rest : OutM σ (Ctl ρ)) (st : PySt σ) :
    seqC (forEach l body) rest st = rest (l.foldl (fun s x => step x s) st) := by
  rw [seqC_apply, forEach_fold l body step h]

theorem forEach_congr (l : List α) (body body' : α → OutM σ (Ctl ρ)) (h : ∀ x st, body x st = body' x st) :
    forEach l body = forEach l body' := by
  have : body = body' := by funext x st; exact h x st
  rw [this]

/-- `for line in lines: print(line)` -/
@[outm ↓] theorem forEach_print (lines : List Text) (st : PySt σ) :
    forEach lines (fun l => (OutM.print l >>= fun _ => pure Ctl.next : OutM σ (Ctl ρ))) st = (.ok .next, { st with out := st.out ++ linesOut lines }) := by
  induction lines generalizing st with
  | nil => simp [forEach_nil, linesOut]
  | cons x xs ih =>
    rw [forEach_cons]
    simp only [bind_apply, print_apply, pure_apply, ih]
    simp [linesOut, nl]

theorem forEach_find (l : List α) (body : α → OutM σ (Ctl ρ)) (p : α → Bool) (hit : α → PySt σ → PySt σ)
    (h : ∀ x st, if p x = true then body x st = (.ok .brk, hit x st) else loopView (body x st) = (.ok .next, st)) (st : PySt σ) :
    forEach l body st = (.ok .next, match l.find? p with
      | some x => hit x st
      | none => st) := by
  induction l generalizing st with
  | nil => rfl
  | cons x xs ih =>
    have hx := h x st
    by_cases hp : p x = true
    · rw [if_pos hp] at hx
      rw [forEach_cons_out hx, List.find?_cons_of_pos hp]
    · rw [if_neg hp] at hx
      rw [forEach_cons_on hx, ih, List.find?_cons_of_neg hp]

/-! ### what is printed: `printPELInHexFormat`, and the literals of the source -/

/-- what a call of `printPELInHexFormat(data)` does -/
def hexOut (data : Bytes) (st : PySt σ) : PySt σ := { st with out := st.out ++ linesOut (pelHexDisplay data) }

theorem linesOut_append (a b : List Text) : linesOut (a ++ b) = linesOut a ++ linesOut b := by simp [linesOut]
theorem linesOut_nil : linesOut [] = [] := rfl
theorem linesOut_cons (a : Text) (l : List Text) : linesOut (a :: l) = a ++ nl ++ linesOut l := by simp [linesOut]
theorem linesOut_single (a : Text) : linesOut [a] = a ++ nl := by simp [linesOut]

theorem hexOut_eq (data : Bytes) (st : PySt σ) (o : Text)
    (h : o = st.out ++ s "-------------- PEL Begin  ----------------" ++ nl ++ linesOut (hexdump 16 4 data) ++
      s "-------------- PEL End    ----------------" ++ nl) :
    ({ st with out := o } : PySt σ) = hexOut data st := by
  subst h
  simp [hexOut, pelHexDisplay, hexdump16, linesOut_cons, linesOut_nil, linesOut_append, List.append_assoc]

theorem s_begin : s "-------------- PEL Begin  ----------------" =
    [45, 45, 45, 45, 45, 45, 45, 45, 45, 45, 45, 45, 45, 45, 32, 80, 69, 76, 32, 66, 101, 103, 105, 110, 32, 32, 45, 45, 45, 45, 45, 45, 45, 45, 45, 45, 45, 45, 45, 45, 45, 45] := s_ofList _
theorem s_end : s "-------------- PEL End    ----------------" =
    [45, 45, 45, 45, 45, 45, 45, 45, 45, 45, 45, 45, 45, 45, 32, 80, 69, 76, 32, 69, 110, 100, 32, 32, 32, 32, 45, 45, 45, 45, 45, 45, 45, 45, 45, 45, 45, 45, 45, 45, 45, 45] := s_ofList _

/-! the keys the look-ups and `parsePELSummary` use, as code points (the generated terms carry the literals of the source) -/
@[pykeys ↓ ←] theorem sl_Primary_SRC : s "Primary SRC" = [80, 114, 105, 109, 97, 114, 121, 32, 83, 82, 67] := s_ofList _
@[pykeys ↓ ←] theorem sl_Reference_Code : s "Reference Code" = [82, 101, 102, 101, 114, 101, 110, 99, 101, 32, 67, 111, 100, 101] := s_ofList _
@[pykeys ↓ ←] theorem sl_Error_Details : s "Error Details" = [69, 114, 114, 111, 114, 32, 68, 101, 116, 97, 105, 108, 115] := s_ofList _
@[pykeys ↓ ←] theorem sl_Message : s "Message" = [77, 101, 115, 115, 97, 103, 101] := s_ofList _
@[pykeys ↓ ←] theorem sl_SRC : s "SRC" = [83, 82, 67] := s_ofList _
@[pykeys ↓ ←] theorem sl_PLID : s "PLID" = [80, 76, 73, 68] := s_ofList _
@[pykeys ↓ ←] theorem sl_CreatorID : s "CreatorID" = [67, 114, 101, 97, 116, 111, 114, 73, 68] := s_ofList _
@[pykeys ↓ ←] theorem sl_Subsystem : s "Subsystem" = [83, 117, 98, 115, 121, 115, 116, 101, 109] := s_ofList _
@[pykeys ↓ ←] theorem sl_Commit_Time : s "Commit Time" = [67, 111, 109, 109, 105, 116, 32, 84, 105, 109, 101] := s_ofList _
@[pykeys ↓ ←] theorem sl_Sev : s "Sev" = [83, 101, 118] := s_ofList _
@[pykeys ↓ ←] theorem sl_CompID : s "CompID" = [67, 111, 109, 112, 73, 68] := s_ofList _
@[pykeys ↓ ←] theorem sl_Private_Header : s "Private Header" = [80, 114, 105, 118, 97, 116, 101, 32, 72, 101, 97, 100, 101, 114] := s_ofList _
@[pykeys ↓ ←] theorem sl_User_Header : s "User Header" = [85, 115, 101, 114, 32, 72, 101, 97, 100, 101, 114] := s_ofList _
@[pykeys ↓ ←] theorem sl_Creator_Subsystem : s "Creator Subsystem" = [67, 114, 101, 97, 116, 111, 114, 32, 83, 117, 98, 115, 121, 115, 116, 101, 109] := s_ofList _
@[pykeys ↓ ←] theorem sl_Created_by : s "Created by" = [67, 114, 101, 97, 116, 101, 100, 32, 98, 121] := s_ofList _
@[pykeys ↓ ←] theorem sl_Event_Severity : s "Event Severity" = [69, 118, 101, 110, 116, 32, 83, 101, 118, 101, 114, 105, 116, 121] := s_ofList _

/- while a program runs, the code points of the two marker lines are folded back into the model's strings -/
attribute [outm ←] s_begin s_end
attribute [dmout] loopView hexOut nl pelHexDisplay hexdump16 linesOut_cons linesOut_nil linesOut_append List.append_assoc

/-! ### facts about what the model's decoders return, whatever bytes they read -/

/-- whatever `r` returns, on any input, satisfies `P` -/
def Post (P : α → Prop) (r : Rd α) : Prop := ∀ st a st', r st = .ok (a, st') → P a

theorem Post.bind {Q : α → Prop} {P : β → Prop} {x : Rd α} {f : α → Rd β} (hx : Post Q x) (hf : ∀ a, Q a → Post P (f a)) :
    Post P (x >>= f) := by
  intro st b st' h
  obtain ⟨a, st1, hr, h⟩ := bind_ok_inv h
  exact hf a (hx _ _ _ hr) _ _ _ h

/-- … when nothing is needed of the first value -/
theorem Post.step {P : β → Prop} {x : Rd α} {f : α → Rd β} (hf : ∀ a, Post P (f a)) : Post P (x >>= f) :=
  Post.bind (Q := fun _ => True) (fun _ _ _ _ => trivial) fun a _ => hf a

theorem Post.pure {P : α → Prop} {a : α} (h : P a) : Post P (pure a : Rd α) := by
  intro st b st' hb
  cases hb
  exact h

theorem Post.fail {P : α → Prop} {e : Err} : Post P (Rd.fail e : Rd α) := by
  intro st b st' hb
  cases hb

theorem Post.ite {P : α → Prop} {c : Prop} [Decidable c] {x y : Rd α} (hx : c → Post P x) (hy : ¬ c → Post P y) :
    Post P (if c then x else y) := by
  split
  · exact hx ‹_›
  · exact hy ‹_›

/-- what the look-ups rely on in a summary -/
def SumFacts : SummaryOutcome → Prop
  | .summary sm plid src => sm.eid ≠ [] ∧ objGet? sm.fields (s "PLID") = some (.str (ox (fmtHex 2 plid))) ∧
      objGet? sm.fields (s "SRC") = src.map J.str
  | _ => True

theorem parseSummaryRd_facts (env : Env) (cfg : SelCfg) : Post SumFacts (parseSummaryRd env cfg) := by
  unfold parseSummaryRd
  refine Post.step fun h1 => ?_
  split
  · exact Post.pure (by trivial)
  refine Post.step fun (phJ, ph) => Post.step fun h2 => ?_
  split
  · exact Post.pure (by trivial)
  refine Post.step fun (uhJ, uh) => ?_
  dsimp only
  split
  · exact Post.pure (by trivial)
  refine Post.step fun (rc, msg) => Post.pure ?_
  refine ⟨by simp [ox, s_0x], ?_, ?_⟩ <;> cases rc <;> cases msg <;> simp [objGet?, kv, jstr, s_eq_iff]

/-- … with the keys as the source spells them -/
theorem summaryOf_facts {env : Env} {cfg : SelCfg} {f : FileEntry} {sm : Summary} {plid : Nat} {src : Option Text}
    (h : summaryOf env cfg f = .some (sm, plid, src)) :
    sm.eid.isEmpty = false ∧ objGet? sm.fields [80, 76, 73, 68] = some (.str (ox (fmtHex 2 plid))) ∧
      objGet? sm.fields [83, 82, 67] = src.map J.str := by
  unfold summaryOf parseSummary at h
  rcases hr : parseSummaryRd env cfg f.data with e | ⟨o, b⟩ <;> rw [hr] at h
  · cases h
  · cases o <;> cases h
    obtain ⟨h1, h2, h3⟩ := parseSummaryRd_facts env cfg _ _ _ hr
    exact ⟨List.isEmpty_eq_false_iff.2 h1, sl_PLID ▸ h2, sl_SRC ▸ h3⟩

/-- the members `parsePELSummary` reads from the private header's document are there -/
theorem decodePH_facts (T : Tables) (h : SecHdr) :
    Post (fun r => (∃ v, Member (s "Creator Subsystem") v r.1) ∧ ∃ v, Member (s "Created by") v r.1) (decodePH T h) := by
  unfold decodePH
  repeat refine Post.step fun _ => ?_
  exact Post.pure ⟨member_of_key (by simp [kv]), member_of_key (by simp [kv])⟩

/-- … and those of the user header's -/
theorem decodeUH_facts (T : Tables) (h : SecHdr) (creator : Text) :
    Post (fun r => (∃ v, Member (s "Subsystem") v r.1) ∧ ∃ v, Member (s "Event Severity") v r.1) (decodeUH T h creator) := by
  unfold decodeUH
  repeat refine Post.step fun _ => ?_
  exact Post.pure ⟨member_of_key (by simp [kv]), member_of_key (by simp [kv])⟩

/-! The member `Reference Code` of an SRC document is the reference code `decodeSRC` returns beside it: it stands behind the fixed
    members and the two optional groups, which have other names, and what is appended later does not hide it. -/

theorem members_fresh (ed : ErrDet) : ∀ p ∈ ed.members, p.1 ≠ s "Reference Code" := by
  cases ed <;> simp [ErrDet.members, kv, s_eq_iff]

theorem srcMembers_rc (T : Tables) (env : SrcEnv) (h : SecHdr) (creator : Text) (verB : Bytes) (flags wc : Nat) (words : List Nat)
    (ascii : Text) :
    objGet? (srcMembers T env h creator verB flags wc words ascii) (s "Reference Code") = some (jstr (stripSp ascii)) := by
  unfold srcMembers
  simp only [List.append_assoc]
  rw [objGet?_append_none _ _ _ (by simp [kv, s_eq_iff]), objGet?_append_none _ _ _ (fresh_ite (by simp [kv, s_eq_iff])),
    objGet?_append_none _ _ _ (fresh_ite (by simpa [kv, s_eq_iff] using members_fresh _))]
  simp [objGet?, kv, s_eq_iff]

theorem srcFinish_facts (env : SrcEnv) (creator : Text) (allow : Bool) (ascii : Text) (hw : List Text) (L : List (Text × J))
    (h : objGet? L (s "Reference Code") = some (jstr (stripSp ascii))) :
    Post (fun r => Member (s "Reference Code") (jstr r.2) r.1) (srcFinish env creator allow ascii hw L) := by
  unfold srcFinish
  split
  · split
    · exact Post.pure ⟨_, rfl, h⟩
    · exact Post.pure ⟨_, rfl, objGet?_append_some h _⟩
    · exact Post.fail
    · exact Post.fail
  · exact Post.pure ⟨_, rfl, h⟩

theorem decodeSRC_facts (T : Tables) (env : SrcEnv) (h : SecHdr) (creator : Text) (allow : Bool) :
    Post (fun r => Member (s "Reference Code") (jstr r.2) r.1) (decodeSRC T env h creator allow) := by
  rw [decodeSRC_eq]
  repeat refine Post.step fun _ => ?_
  unfold srcTail
  split
  · exact Post.fail
  · exact Post.fail
  unfold srcAfterEd
  refine Post.ite (fun _ => Post.fail) fun _ => Post.bind ?_ (srcFinish_facts _ _ _ _ _)
  exact Post.ite (fun _ => Post.step fun c => Post.pure (objGet?_append_some (srcMembers_rc ..) _)) fun _ => Post.pure (srcMembers_rc ..)

/-- what the summary loop relies on in the decode of a primary SRC section -/
theorem decodeSection_ps (env : Env) (creator : Text) (h : SecHdr) (hid : h.id = sidPS) :
    Post (fun r => ∃ rc, r.2 = some rc ∧ Member (s "Reference Code") (jstr rc) r.1) (decodeSection env creator h) := by
  unfold decodeSection
  rw [if_pos (Or.inl hid)]
  exact (decodeSRC_facts _ _ _ _ _).bind fun (j, rc) hm => Post.pure ⟨rc, rfl, hm⟩

/-! ### the loops over the file list: a file is selected (and then does something to the locals and to stdout), skipped, or one diagnostic -/

def okList {β : Type} (r : FileEntry → FileRes β) (files : List FileEntry) : List (FileEntry × β) :=
  (files.map (fun f => (f, r f))).filterMap (fun p => match p.2 with | .some x => some (p.1, x) | _ => none)

theorem okList_nil {β : Type} (r : FileEntry → FileRes β) : okList r [] = [] := rfl
theorem okList_cons (r : FileEntry → FileRes β) (f : FileEntry) (fs : List FileEntry) :
    okList r (f :: fs) = match r f with
      | .some x => (f, x) :: okList r fs
      | _ => okList r fs := by
  unfold okList
  simp only [List.map_cons, List.filterMap_cons]
  cases r f <;> rfl

/-- the `map` / `filterMap` pair of a model mode is `okList` of the classifier that says the same file by file -/
theorem okList_of_filterMap {γ : Type} (r : FileEntry → FileRes β) (m : FileEntry → γ) (g : γ → Option (FileEntry × β))
    (h : ∀ f, g (m f) = match r f with | .some y => some (f, y) | _ => none) (files : List FileEntry) :
    (files.map m).filterMap g = okList r files := by
  induction files with
  | nil => rfl
  | cons f fs ih =>
    rw [List.map_cons, List.filterMap_cons, h, okList_cons, ih]
    cases r f <;> rfl

def diag1 : FileRes β → Nat
  | .diag => 1
  | _ => 0

theorem countDiag_cons (x : FileRes β) (l : List (FileRes β)) : countDiag (x :: l) = diag1 x + countDiag l := by
  unfold countDiag
  cases x <;> simp [diag1] <;> omega

theorem countDiag_nil {β : Type} : countDiag ([] : List (FileRes β)) = 0 := rfl

/-- … and its diagnostics are those of that classifier -/
theorem countDiag_of_map {γ δ : Type} (r : FileEntry → FileRes β) (m : FileEntry → γ) (p : γ → FileRes δ)
    (h : ∀ f, diag1 (p (m f)) = diag1 (r f)) (files : List FileEntry) : countDiag ((files.map m).map p) = countDiag (files.map r) := by
  induction files with
  | nil => rfl
  | cons f fs ih => rw [List.map_cons, List.map_cons, List.map_cons, countDiag_cons, countDiag_cons, h, ih]

/-- what one file does in such a loop, given what the file is to the mode (`r`) and what a selected file does (`on`) -/
def fileStep (r : FileEntry → FileRes β) (on : FileEntry × β → σ × Text → σ × Text) (f : FileEntry) (st : PySt σ) : PySt σ :=
  match r f with
  | .some x =>
    let q := on (f, x) (st.loc, st.out)
    { st with loc := q.1, out := q.2 }
  | .skip => st
  | .diag => { st with errs := st.errs + 1 }

/-- a loop whose passes do `fileStep r on` leaves what `on` made of the selected files, and one diagnostic for every rejected one -/
theorem forEach_files (r : FileEntry → FileRes β) (on : FileEntry × β → σ × Text → σ × Text)
    (body : FileEntry → OutM σ (Ctl ρ)) (h : ∀ f st, loopView (body f st) = (.ok .next, fileStep r on f st))
    (files : List FileEntry) (st : PySt σ) :
    forEach files body st =
      let q := (okList r files).foldl (fun q p => on p q) (st.loc, st.out)
      (.ok .next, { loc := q.1, out := q.2, errs := st.errs + countDiag (files.map r) }) := by
  induction files generalizing st with
  | nil => rfl
  | cons f fs ih =>
    rw [forEach_cons_on (h f st), ih, okList_cons, List.map_cons, countDiag_cons, fileStep]
    cases r f <;> simp [diag1, Nat.add_assoc]

/-- with `-x` a selected file is dumped -/
def hexOn (p : FileEntry × β) (q : σ × Text) : σ × Text := (q.1, q.2 ++ linesOut (pelHexDisplay p.1.data))

theorem hexOn_fold (l : List (FileEntry × β)) (q : σ × Text) :
    l.foldl (fun q p => hexOn p q) q = (q.1, q.2 ++ l.flatMap fun p => linesOut (pelHexDisplay p.1.data)) := by
  induction l generalizing q with
  | nil => simp
  | cons p l ih => rw [List.foldl_cons, ih]; simp [hexOn]

/-! #### the summary modes (`--list`, `--plid`, `--src`) -/

@[dmout] def addSums (acc : List (Text × J)) (l : List Summary) : List (Text × J) := l.foldl (fun a e => objSet a e.eid (.obj e.fields)) acc

/-- the final `print(prettyPrint(json.dumps(final_summary, indent=4), desiredSpace=29))` against the model's `summaryObj` -/
theorem summaryObj_eq (l : List Summary) : summaryObj l = .obj (addSums [] l) := rfl

/-- a selected file contributes the summaries `sums`: with `-x` one dump for each, otherwise they are entered -/
def sumOn (hex : Bool) (sums : β → List Summary) (p : FileEntry × β) (q : List (Text × J) × Text) : List (Text × J) × Text :=
  if hex then (q.1, q.2 ++ (sums p.2).flatMap fun _ => linesOut (pelHexDisplay p.1.data)) else (addSums q.1 (sums p.2), q.2)

theorem sumOn_fold (hex : Bool) (sums : β → List Summary) (l : List (FileEntry × β)) (q : List (Text × J) × Text) :
    l.foldl (fun q p => sumOn hex sums p q) q =
      if hex then (q.1, q.2 ++ l.flatMap fun p => (sums p.2).flatMap fun _ => linesOut (pelHexDisplay p.1.data))
      else (addSums q.1 (l.flatMap (sums ·.2)), q.2) := by
  induction l generalizing q with
  | nil => cases hex <;> simp [addSums]
  | cons p l ih =>
    rw [List.foldl_cons, ih]
    cases hex <;> simp [sumOn, addSums, List.foldl_append]

/-- what a summary mode writes, given what each file is to it (`r`) and the summaries a selected file contributes -/
def sumOut (hex : Bool) (r : FileEntry → FileRes β) (sums : β → List Summary) (files : List FileEntry) : CliOut :=
  { stdout := if hex then (okList r files).flatMap (fun p => (sums p.2).flatMap fun _ => linesOut (pelHexDisplay p.1.data))
              else prettyPrint 29 (dumps (summaryObj ((okList r files).flatMap (sums ·.2)))) ++ nl,
    stderrLines := countDiag (files.map r), exit := 0 }

theorem listMode_sumOut (env : Env) (o : CliOpts) (d : Dir) :
    listMode env o d = sumOut o.hex (summaryOf env o.cfg) (fun x => [x.1]) (Pel.getFileList d o.ext o.rev) := by
  simp only [sumOut, ← List.map_eq_flatMap, List.flatMap_singleton]
  rw [listMode, okList_of_filterMap (summaryOf env o.cfg), countDiag_of_map (summaryOf env o.cfg)]
  · intro f
    rfl
  · intro f
    cases summaryOf env o.cfg f <;> rfl

/-! #### `--all-pels` -/

/-- without `-x` the document `t` of a selected file is printed, after `,` + newline unless it is the first; the mutable local is
    `firstPELPrinted` -/
def allOn (t : β → Text) (p : FileEntry × β) (q : Bool × Text) : Bool × Text := (true, q.2 ++ (if q.1 then [44, 10] else []) ++ t p.2)

theorem allOn_fold (t : β → Text) (l : List (FileEntry × β)) (q : Bool × Text) :
    l.foldl (fun q p => allOn t p q) q =
      (q.1 || !l.isEmpty, q.2 ++ if q.1 then (l.map (t ·.2)).flatMap ([44, 10] ++ ·) else joinWith [44, 10] (l.map (t ·.2))) := by
  induction l generalizing q with
  | nil => simp [joinWith]
  | cons p l ih =>
    rw [List.foldl_cons, ih]
    cases hq : q.1 <;> simp [allOn, hq, joinWith_sep]

/-- `[`, the separated documents, a newline if there was one, `]` is the model's framing -/
theorem framing_eq (docs : List Text) :
    [91] ++ nl ++ joinWith [44, 10] docs ++ (if !docs.isEmpty then nl else []) ++ [93] ++ nl = listFraming docs := by
  cases docs <;> simp [joinWith, listFraming, nl]

theorem allMode_eq (env : Env) (o : CliOpts) (d : Dir) :
    allMode env o d =
      { stdout := if o.hex then (okList (fullOf env o.cfg) (Pel.getFileList d o.ext o.rev)).flatMap (fun p => linesOut (pelHexDisplay p.1.data))
                  else listFraming ((okList (fullOf env o.cfg) (Pel.getFileList d o.ext o.rev)).map fun p => prettyPrint 34 (dumps p.2.2)),
        stderrLines := countDiag ((Pel.getFileList d o.ext o.rev).map (fullOf env o.cfg)), exit := 0 } := by
  rw [allMode, okList_of_filterMap (fullOf env o.cfg), countDiag_of_map (fullOf env o.cfg)]
  · intro f
    rfl
  · intro f
    cases fullOf env o.cfg f <;> rfl

/-! #### `--show-pel-count` -/

def countOn (_ : FileEntry × β) (q : Nat × Text) : Nat × Text := (q.1 + 1, q.2)

theorem countOn_fold (l : List (FileEntry × β)) (q : Nat × Text) : l.foldl (fun q p => countOn p q) q = (q.1 + l.length, q.2) := by
  induction l generalizing q with
  | nil => rfl
  | cons p l ih => rw [List.foldl_cons, ih]; simp [countOn]; omega

theorem length_okList (r : FileEntry → FileRes β) (files : List FileEntry) :
    (okList r files).length = (keepSome (files.map r)).length := by
  induction files with
  | nil => rfl
  | cons f fs ih =>
    rw [okList_cons, List.map_cons, keepSome, List.filterMap_cons]
    cases r f <;> simp [ih, keepSome]

/-! ### `getFileList` -/

theorem getFileList_extOk (d : Dir) (ext : Option Text) (rev : Bool) :
    Pel.getFileList d ext rev = pySortNames rev (d.filter fun f => C08.extOk ext f.name) := rfl

/-- what the inner loop of `getFileList` does with one name -/
def gflStep (ext : Option Text) (f : FileEntry) (st : PySt (List FileEntry)) : PySt (List FileEntry) :=
  if C08.extOk ext f.name then { st with loc := st.loc ++ [f] } else st

theorem gflStep_fold (ext : Option Text) (l : List FileEntry) (st : PySt (List FileEntry)) :
    l.foldl (fun s x => gflStep ext x s) st = { st with loc := st.loc ++ l.filter fun f => C08.extOk ext f.name } := by
  induction l generalizing st with
  | nil => simp
  | cons x xs ih =>
    rw [List.foldl_cons, ih, List.filter_cons]
    by_cases h : C08.extOk ext x.name = true <;> simp [h, gflStep]

/-! ### the look-ups -/

theorem selCfg_lookup (c : DirCfg) (h : c.ids.any = true) : ({ c.selCfg with lookup := true } : SelCfg) = c.selCfg := by
  simp [DirCfg.selCfg, h]

/-! #### `--plid` -/

/-- the summary of a selected file whose PLID is the one asked for -/
def rPlid (env : Env) (cfg : SelCfg) (pid : Text) (f : FileEntry) : FileRes Summary :=
  match summaryOf env cfg f with
  | .some (sm, plid, _) => if pid = fmtHex 8 plid then .some sm else .skip
  | .skip => .skip
  | .diag => .diag

theorem plidMode_sumOut (env : Env) (o : CliOpts) (x pid : Text) (d : Dir) (hp : processId x = some pid) :
    plidMode env o x d = sumOut o.hex (rPlid env { o.cfg with lookup := true } pid) (fun sm => [sm]) (Pel.getFileList d o.ext o.rev) := by
  simp only [sumOut, ← List.map_eq_flatMap, List.flatMap_singleton]
  rw [plidMode]
  simp only [hp]
  rw [okList_of_filterMap (rPlid env { o.cfg with lookup := true } pid), countDiag_of_map (rPlid env { o.cfg with lookup := true } pid)]
  -- both side conditions: file by file, the model's `filterMap` is `rPlid`
  all_goals (
    intro f
    unfold rPlid
    rcases summaryOf env { o.cfg with lookup := true } f with ⟨sm, plid, src⟩ | _ | _
    · by_cases hq : pid = fmtHex 8 plid <;> simp [hq, diag1]
    · rfl
    · rfl)

/-! #### `parseAndPrintPELFile`, `--id` -/

/-- what printing one file adds to the process output -/
def printStep (env : Env) (c : DirCfg) (f : FileEntry) (st : PySt σ) : PySt σ :=
  { st with out := st.out ++ (printOne env c.opts c.selCfg f).1, errs := st.errs + (printOne env c.opts c.selCfg f).2 }

/-- the first or second section id of the file is wrong (`parsePEL` returns `("", "")`, or exits when asked to) -/
def fullOfBad (env : Env) (cfg : SelCfg) (f : FileEntry) : Bool :=
  match parsePEL env cfg f.data with
  | .badHeader => true
  | _ => false

/-! #### `--bmc-id` -/

/-- what one file is for the walk of `parsePelFromBmcID`: skipped (a readable private header with another id), a diagnostic (the walk
    goes on), or selected: the id matched and the decode did not raise, the text is printed and the walk ends -/
def bmcClass (env : Env) (o : CliOpts) (n : Text) (f : FileEntry) : FileRes Text :=
  match generatePHRd env f.data with
  | .ok (some ph, _) =>
    if natDec ph.obmcLogID = n then
      match fullOf env { o.cfg with lookup := true } f with
      | .some (_, j) => .some (if o.hex then linesOut (pelHexDisplay f.data) else prettyPrint 34 (dumps j) ++ nl)
      | .skip => .some []
      | .diag => .diag
    else .skip
  | _ => .diag

/-- `generatePH` followed by anything, as the model's readers write it out -/
theorem generatePHRd_bind (env : Env) (k : Option PHInfo → Rd β) :
    (generatePHRd env >>= k) = (do
      let h ← parseHeader
      if h.id ≠ sidPH then k none else do
      let (_, ph) ← decodePH env.T h
      k (some ph)) := by
  simp only [generatePHRd, bind_assoc]
  congr 1; funext h
  split <;> simp

theorem bmcIdGo_cons (env : Env) (o : CliOpts) (n : Text) (f : FileEntry) (fs : Dir) (errs : Nat) :
    bmcIdGo env o n (f :: fs) errs = match bmcClass env o n f with
      | .skip => bmcIdGo env o n fs errs
      | .diag => bmcIdGo env o n fs (errs + 1)
      | .some t => { stdout := t, stderrLines := errs, exit := 0 } := by
  rw [bmcIdGo, ← generatePHRd_bind env fun o => match o with
    | none => pure none
    | some ph => pure (some ph.obmcLogID)]
  unfold bmcClass printOne
  rw [stateT_bind_run]
  rcases generatePHRd env f.data with e | ⟨_ | ph, b⟩
  · rfl
  · rfl
  · by_cases hn : natDec ph.obmcLogID = n
    · cases hf : fullOf env { o.cfg with lookup := true } f <;> simp [rd_pure_apply, hn]
    · simp [rd_pure_apply, hn]

/-- the state after the walk of `parsePelFromBmcID` (`found` is the mutable local) -/
def bmcEnd (env : Env) (o : CliOpts) (n : Text) : Dir → PySt Bool → PySt Bool
  | [], st => st
  | f :: fs, st =>
    match bmcClass env o n f with
    | .skip => bmcEnd env o n fs st
    | .diag => bmcEnd env o n fs { st with errs := st.errs + 1 }
    | .some t => { st with loc := true, out := st.out ++ t }

theorem bmc_loop (env : Env) (o : CliOpts) (n : Text) (body : FileEntry → OutM Bool (Ctl Unit))
    (h : ∀ f st, match bmcClass env o n f with
      | .skip => loopView (body f st) = (.ok .next, st)
      | .diag => loopView (body f st) = (.ok .next, { st with errs := st.errs + 1 })
      | .some t => body f st = (.ok .brk, { st with loc := true, out := st.out ++ t }))
    (d : Dir) (st : PySt Bool) :
    forEach d body st = (.ok .next, bmcEnd env o n d st) := by
  induction d generalizing st with
  | nil => rfl
  | cons f fs ih =>
    have hf := h f st
    rw [bmcEnd]
    cases hc : bmcClass env o n f <;> rw [hc] at hf
    · exact forEach_cons_out hf
    · exact (forEach_cons_on hf).trans (ih _)
    · exact (forEach_cons_on hf).trans (ih _)

/-- the "PEL not found" test after the walk -/
def bmcOut (st : PySt Bool) : CliOut :=
  match st.loc with
  | true => { stdout := st.out, stderrLines := st.errs, exit := 0 }
  | false => { stdout := st.out ++ s "PEL not found\n", stderrLines := st.errs, exit := 0 }

/-- … and `bmcEnd` followed by the "PEL not found" test is the model's recursion -/
theorem bmcEnd_go (env : Env) (o : CliOpts) (n : Text) (d : Dir) (errs : Nat) :
    bmcOut (bmcEnd env o n d { loc := false, out := [], errs := errs }) = bmcIdGo env o n d errs := by
  induction d generalizing errs with
  | nil => simp [bmcEnd, bmcIdGo, bmcOut]
  | cons f fs ih =>
    rw [bmcIdGo_cons]
    simp only [bmcEnd]
    cases hc : bmcClass env o n f with
    | some t => simp [bmcOut]
    | skip => simpa using ih errs
    | diag => simpa using ih (errs + 1)

/-! #### `--src`, `--src-exclude` -/

/-- what one file is for `parsePelFromSRCID`: the summaries to show (once per matching criterion), or a diagnostic (also for a
    selected PEL without primary SRC: KeyError) -/
def rSrc (env : Env) (cfg : SelCfg) (needle excl : Option Text) (f : FileEntry) : FileRes (List Summary) :=
  match summaryOf env cfg f with
  | .some (sm, _, some rc) =>
    .some ((match needle with
        | some n => if n ≠ [] ∧ isInfix n rc then [sm] else []
        | none => []) ++
      (match excl with
        | some t => if !isInfix rc t then [sm] else []
        | none => []))
  | .some (_, _, none) => .diag
  | .skip => .skip
  | .diag => .diag

theorem rSrc_tv (env : Env) (cfg : SelCfg) (needle excl : Option Text) : rSrc env cfg needle excl = rSrc env cfg (tv needle) excl := by
  funext f
  unfold rSrc
  rcases needle with _ | _ | _ <;> simp [tv]

/-- `srcMode` reads the needle through `tv`: a needle that is the empty string matches nothing -/
theorem srcMode_short (env : Env) (o : CliOpts) (needle excl : Option Text) (d : Dir) (hl : ∀ n, tv needle = some n → n.length ≤ 32) :
    srcMode env o needle excl d = sumOut o.hex (rSrc env { o.cfg with lookup := true } (tv needle) excl) id (Pel.getFileList d o.ext o.rev) := by
  unfold srcMode
  rw [if_neg (by
    rcases needle with _ | _ | ⟨a, n⟩
    · simp
    · simp
    · simpa using hl _ rfl)]
  dsimp only
  rw [← rSrc_tv, sumOut, okList_of_filterMap (rSrc env { o.cfg with lookup := true } needle excl),
    countDiag_of_map (rSrc env { o.cfg with lookup := true } needle excl)]
  · rfl
  -- both side conditions: file by file, the model's classifier is `rSrc`
  all_goals (
    intro f
    unfold rSrc
    rcases summaryOf env { o.cfg with lookup := true } f with ⟨sm, plid, _ | rc⟩ | _ | _ <;> rfl)

theorem srcMode_long (env : Env) (o : CliOpts) (needle excl : Option Text) (d : Dir) {n : Text} (hn : tv needle = some n) (hl : n.length > 32) :
    srcMode env o needle excl d = { stdout := [], stderrLines := 1, exit := 1 } := by
  obtain ⟨rfl, -⟩ := tv_some hn
  simp [srcMode, hl]

/-! ### `parsePELSummary` -/

/-- `summary["SRC"] = …; summary["Message"] = …` -/
def addSM (d : List (Text × J)) (rc : Option Text) (msg : Option J) : List (Text × J) :=
  let d1 := match rc with
    | some r => objSet d (s "SRC") (jstr r)
    | none => d
  match msg with
  | some m => objSet d1 (s "Message") m
  | none => d1

/-- the two results agree: equal, or both an exception with the same output (the locals no longer matter then) -/
def StepRel (r r' : PyRes (Ctl ρ) × PySt σ) : Prop :=
  match r'.1 with
  | .exc => r.1 = .exc ∧ r.2.out = r'.2.out ∧ r.2.errs = r'.2.errs
  | _ => r = r'

/-- one pass of the model's `summarySections`: `none` = another section was read, `some` = the primary SRC's reference code and message -/
def secStep (env : Env) (creator : Text) : Rd (Option (Option Text × Option J)) := do
  let h ← parseHeader
  let (j, rc) ← decodeSection env creator h
  if h.id = sidPS then do
    let msg ← summaryMessage j
    pure (some (rc, msg))
  else pure none

theorem summarySections_succ (env : Env) (creator : Text) (n : Nat) :
    summarySections env creator (n + 1) = secStep env creator >>= fun r => match r with
      | some x => pure x
      | none => summarySections env creator n := by
  simp only [summarySections, secStep, bind_assoc]
  congr 1; funext h
  congr 1; funext p
  split <;> simp

/-- one pass of the section loop of `parsePELSummary` on (stream, summary) -/
def psStep (env : Env) (creator : Text) (st : PySt (Bytes × List (Text × J))) : PyRes (Ctl ρ) × PySt (Bytes × List (Text × J)) :=
  match secStep env creator st.loc.1 with
  | .error _ => (.exc, st)
  | .ok (some (rc, msg), b) => (.ok .brk, { st with loc := (b, addSM st.loc.2 rc msg) })
  | .ok (none, b) => (.ok .next, { st with loc := (b, st.loc.2) })

/-- the whole loop, from the model's `summarySections` -/
def psLoop (env : Env) (creator : Text) (k : Nat) (st : PySt (Bytes × List (Text × J))) : PyRes (Ctl ρ) × PySt (Bytes × List (Text × J)) :=
  match summarySections env creator k st.loc.1 with
  | .error _ => (.exc, st)
  | .ok ((rc, msg), b') => (.ok .next, { st with loc := (b', addSM st.loc.2 rc msg) })

theorem sum_loop (env : Env) (creator : Text) (body : Nat → OutM (Bytes × List (Text × J)) (Ctl ρ))
    (hbody : ∀ i st, StepRel (body i st) (psStep env creator st)) :
    ∀ (k a : Nat) (st : PySt (Bytes × List (Text × J))), StepRel (forEach (List.range' a k) body st) (psLoop env creator k st) := by
  intro k
  induction k with
  | zero =>
    intro a st
    simp only [List.range', forEach_nil, psLoop, summarySections, StepRel]
    rfl
  | succ k ih =>
    intro a st
    have hb := hbody a st
    rw [show List.range' a (k + 1) = a :: List.range' (a + 1) k from rfl]
    unfold psLoop
    unfold psStep at hb
    rw [summarySections_succ, stateT_bind_run]
    rcases h1 : secStep env creator st.loc.1 with e | ⟨_ | ⟨rc, msg⟩, b⟩ <;> simp only [h1, StepRel] at hb ⊢
    · rw [forEach_cons_exc hb.1]
      exact hb
    · rw [forEach_cons_on (by rw [hb]; rfl)]
      have := ih (a + 1) { st with loc := (b, st.loc.2) }
      unfold psLoop at this
      cases h4 : summarySections env creator k b <;> simp only [h4, StepRel] at this ⊢ <;> exact this
    · rw [forEach_cons_out hb]
      rfl

/-- the names under which `generatePH`, `generateUH` and `sectionFun` store what `parsePELSummary` then reads back with literal keys.
    A hypothesis of the ties of `parsePELSummary`; no theorem discharges it.  `C01.pin_section_names` proves, of the table read
    from the source (`Live.sectionNames`), `lookupT live "PH" = some "Private Header"` and the like, which is each conjunct once
    `sectionName` is unfolded at a `Tables` holding that table; that step is not written down. -/
def NamesOk (T : Tables) : Prop :=
  sectionName T sidPH = s "Private Header" ∧ sectionName T sidUH = s "User Header" ∧ sectionName T sidPS = s "Primary SRC"
end Pel.TieDM
