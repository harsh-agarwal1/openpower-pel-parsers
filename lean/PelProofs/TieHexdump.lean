import PelModel.TransHexdump
import PelProofs.HexDump
/-
  Lemmas for the source tie of stream `hexdump` (PelProps/TieC13.lean, TieC17.lean).  The regenerated definitions
  (PelGen/GenHexdump.lean) are `do` blocks in the `Option` monad, every `for` loop a `forIn <list> <initial state> <step>`.  Each
  loop of the source has ONE lemma here: for ANY step `f` that, POINTWISE, does what one round of the Python body does (hypothesis
  `hf`), the loop computes the model's function.  A tie proof finds `f` by unification (`rw`) and proves `hf` by simplification
  and case analysis, so the names of locals, the order of independent statements and the way a test is written do not matter.
-/
namespace Pel.TieHex

theorem zero_eq_iff (n : Nat) : (0 = n) = (n = 0) := by
  apply propext; omega

/-- a loop over positions sees the list as "element `k`, then the rest from `k + 1`" -/
theorem of_drop_cons {α} {l : List α} {k : Nat} {c : α} {r : List α} (h : l.drop k = c :: r) : l[k]? = some c ∧ l.drop (k + 1) = r := by
  constructor
  · simpa [List.head?_drop] using congrArg List.head? h
  · simpa [List.tail_drop] using congrArg List.tail h

/-! ### `xs[a:b]` -/

theorem slice_region {α} (b : List α) (o e : Nat) : Py.slice b o e = (b.drop o).take (e - o) := by
  unfold Py.slice; rw [List.drop_take]

theorem slice_eq {α} (b : List α) (i l : Nat) : Py.slice b i (i + l) = (b.drop i).take l := by
  rw [slice_region, Nat.add_sub_cancel_left]

theorem slice_to_end {α} (b : List α) (o : Nat) : Py.slice b o b.length = b.drop o := by
  rw [slice_region, ← List.length_drop, List.take_length]

theorem slice_two (ln : Text) (k h ch : Nat) (hk : 1 ≤ k) (h1 : ln[k - 1]? = some h) (h2 : ln[k]? = some ch) :
    Py.slice ln (k - 1) (k + 1) = [h, ch] := by
  obtain ⟨j, rfl⟩ : ∃ j, k = j + 1 := ⟨k - 1, by omega⟩
  rw [Nat.add_sub_cancel] at h1 ⊢
  obtain ⟨hj, rfl⟩ := List.getElem?_eq_some_iff.mp h1
  obtain ⟨hj1, rfl⟩ := List.getElem?_eq_some_iff.mp h2
  rw [slice_region, List.drop_eq_getElem_cons hj, List.drop_eq_getElem_cons hj1, show j + 1 + 1 - j = 2 by omega]
  rfl

/-! ### loops that only collect -/

theorem forIn_flatMap {α β} (F : α → List β) {f : α → List β → Option (ForInStep (List β))}
    (hf : ∀ x acc, f x acc = some (.yield (acc ++ F x))) : ∀ (xs : List α) acc, forIn xs acc f = some (acc ++ xs.flatMap F) := by
  intro xs
  induction xs with
  | nil => intro acc; simp
  | cons x r ih => intro acc; simp [List.forIn_cons, hf, ih, List.append_assoc]

theorem forIn_filterMap {α β} (F : α → Option β) {f : α → List β → Option (ForInStep (List β))}
    (hf : ∀ x acc, f x acc = some (.yield (match F x with | some k => acc ++ [k] | none => acc))) :
    ∀ (xs : List α) acc, forIn xs acc f = some (acc ++ xs.filterMap F) := by
  intro xs
  induction xs with
  | nil => intro acc; simp
  | cons x r ih =>
    intro acc
    simp only [List.forIn_cons, hf, Option.bind_eq_bind, Option.bind_some, ih, List.filterMap_cons]
    cases F x <;> simp

/-! ### `hexdump` -/

theorem fmtHex2_byte (b : Nat) (h : b < 256) : fmtHex 2 b = [hexU (b / 16), hexU b] := by
  rw [fmtHex_eq_hexFix 2 b (by omega) (by omega)]
  simp [hexFix]

/-- the inner loop of `hexdump`: one (hex cell, text cell) per byte; `mk` says how the loop state holds the two strings -/
theorem forIn_cells {σ} (mk : Text → Text → σ) {c : Nat} {f : Nat × Nat → σ → Option (ForInStep σ)}
    (hf : ∀ j b raw text, b < 256 → f (j, b) (mk raw text) =
      some (.yield (mk (raw ++ ((if j ≠ 0 ∧ j % c = 0 then spaces 2 else []) ++ [hexU (b / 16), hexU b])) (text ++ [asciiCell b])))) :
    ∀ (ck : Bytes) (j : Nat) (raw text : Text), (∀ x ∈ ck, x < 256) →
      forIn (Py.enumFrom j ck) (mk raw text) f = some (mk (raw ++ rawFrom c j ck) (text ++ ck.map asciiCell)) := by
  intro ck
  induction ck with
  | nil => intro j raw text _; simp [Py.enumFrom, rawFrom, rawSep]
  | cons x r ih =>
    intro j raw text hb
    simp only [Py.enumFrom, List.forIn_cons]
    rw [hf j x raw text (hb x (by simp))]
    simp only [Option.bind_eq_bind, Option.bind_some]
    rw [ih (j + 1) _ _ (fun y hy => hb y (by simp [hy]))]
    simp [rawFrom, rawSep, List.append_assoc]

/-- `range(off, N, l)` walks the offsets of the chunks of the `N - off` bytes that remain -/
theorem rangeAux_chunks {l : Nat} (hl : 0 < l) (N : Nat) : ∀ (n off : Nat) (r : Bytes), r.length ≤ n → N - off = r.length →
    Py.rangeAux N l n off = (chunks l off r).map (·.1) := by
  intro n
  induction n with
  | zero =>
    intro off r hn _
    rw [List.eq_nil_of_length_eq_zero (by omega : r.length = 0), chunks_nil]; rfl
  | succ n ih =>
    intro off r hn hN
    by_cases hr : r = []
    · subst hr; rw [Py.rangeAux, if_neg (by simp at hN; omega), chunks_nil]; rfl
    · have hpos : 0 < r.length := List.length_pos_iff.mpr hr
      rw [Py.rangeAux, if_pos (by omega), chunks_cons l off r hl hr, ih (off + l) (r.drop l) (by simp; omega) (by simp; omega)]
      rfl

theorem forIn_lines {l c : Nat} {b : Bytes} (hl : 1 ≤ l) {f : Nat → List Text → Option (ForInStep (List Text))}
    (hf : ∀ i acc, f i acc = some (.yield (acc ++ [dumpLine l c i (Py.slice b i (i + l))]))) :
    forIn (Py.rangeAux b.length l b.length 0) [] f = some (hexdump l c b) := by
  rw [rangeAux_chunks hl b.length b.length 0 b (Nat.le_refl _) rfl, forIn_flatMap _ hf, hexdump, hexdumpFrom_eq l c 0 b hl]
  simp [map_chunks, slice_eq, List.flatMap_map, ← List.map_eq_flatMap]

/-! ### `parse` -/

/-- what one round of the template walk of `parse` does at index `i` (template character `fc`, line character `ch`) -/
def stepSpec {σ} (mk : Bytes → Bool → σ) (ln : Text) (i fc ch : Nat) (data : Bytes) (prev : Bool) : Option (ForInStep σ) :=
  if fc = chA then (if isHexDigit ch then some (.yield (mk data prev)) else some (.done (mk data prev)))
  else if fc = chD then
    if isHexDigit ch then
      if prev then (Py.fromHex (Py.slice ln (i - 1) (i + 1))).bind fun bv => some (.yield (mk (data ++ bv) false))
      else some (.yield (mk data true))
    else some (.done (mk data prev))
  else if fc = chC then some (.yield (mk data prev))
  else if fc = ch then some (.yield (mk data prev)) else some (.done (mk data prev))

/-- the flag `prev_byte_is_high_nibble` after the walk -/
def goFlag : Text → Text → Bool → Bool
  | _, [], p => p
  | [], _ :: _, p => p
  | f :: fs, ch :: ls, p =>
    if f = chA then (if isHexDigit ch then goFlag fs ls p else p)
    else if f = chD then (if isHexDigit ch then goFlag fs ls (!p) else p)
    else if f = chC then goFlag fs ls p
    else if f = ch then goFlag fs ls p else p

/-- the invariant of the walk at index `k`, where `fr` is left of the template: with the flag set the walk stands between the two
    `D`s of a pair, behind a hex digit; otherwise the rest is paired -/
def PInv (ln : Text) (k : Nat) (prev : Bool) (fr : Text) : Prop :=
  if prev then ∃ h gs, 1 ≤ k ∧ ln[k - 1]? = some h ∧ isHexDigit h = true ∧ fr = chD :: gs ∧ pairedD gs = true
  else pairedD fr = true

/-- the model's pending high nibble, as the flag and the line give it -/
def hiOf (ln : Text) (k : Nat) (prev : Bool) : Option Nat := if prev then ln[k - 1]? else none

theorem fromHex_two (h ch : Nat) (h1 : isHexDigit h = true) (h2 : isHexDigit ch = true) :
    Py.fromHex [h, ch] = some [16 * hexVal h + hexVal ch] := by
  simp [Py.fromHex, Py.hexPairs, h1, h2]

theorem chA_ne_chD : chA ≠ chD := by decide
theorem pairedD_cons_ne (f : Nat) (fs : Text) (hf : f ≠ chD) : pairedD (f :: fs) = pairedD fs := by
  cases fs with
  | nil => simp [pairedD, hf]
  | cons g gs => simp [pairedD, hf]

theorem pairedD_cons_D (fs : Text) (h : pairedD (chD :: fs) = true) : ∃ gs, fs = chD :: gs ∧ pairedD gs = true := by
  cases fs with
  | nil => simp [pairedD] at h
  | cons g gs =>
    simp [pairedD] at h
    exact ⟨gs, by rw [h.1], h.2⟩

theorem forIn_parse_aux {σ} (mk : Bytes → Bool → σ) {fmt ln : Text} {f : Nat → σ → Option (ForInStep σ)}
    (hf : ∀ i fc ch data prev, fmt[i]? = some fc → ln[i]? = some ch → (prev = true → 1 ≤ i) →
      f i (mk data prev) = stepSpec mk ln i fc ch data prev) :
    ∀ (lr fr : Text) (k : Nat) (prev : Bool) (data : Bytes), fmt.drop k = fr → ln.drop k = lr →
      lr.length ≤ fr.length → PInv ln k prev fr →
      forIn (List.range' k lr.length) (mk data prev) f =
        some (mk (parseGo fr lr (hiOf ln k prev) data) (goFlag fr lr prev)) := by
  intro lr
  induction lr with
  | nil => intro fr k prev data _ _ _ _; simp [goFlag]
  | cons ch ls ih =>
    intro fr k prev data hfr hlr hlen hinv
    cases fr with
    | nil => simp at hlen
    | cons fc fs =>
      obtain ⟨hfk, hfr'⟩ := of_drop_cons hfr
      obtain ⟨hlk, hlr'⟩ := of_drop_cons hlr
      have hlen' : ls.length ≤ fs.length := by simpa using hlen
      have hk1 : ∀ p : Bool, (p = true → 1 ≤ k) → f k (mk data p) = stepSpec mk ln k fc ch data p :=
        fun p hp => hf k fc ch data p hfk hlk hp
      simp only [List.length_cons, List.range'_succ, List.forIn_cons]
      cases prev with
      | true =>
        obtain ⟨h, gs, hk, hh, hhex, hfe, hpg⟩ := (by simpa [PInv] using hinv :
          ∃ h gs, 1 ≤ k ∧ ln[k - 1]? = some h ∧ isHexDigit h = true ∧ fc :: fs = chD :: gs ∧ pairedD gs = true)
        obtain ⟨rfl, rfl⟩ : fc = chD ∧ fs = gs := by simpa using hfe
        rw [hk1 true (fun _ => hk)]
        have hAD : chD ≠ chA := chA_ne_chD.symm
        by_cases hx : isHexDigit ch = true
        · simp only [stepSpec, hAD, if_false, if_true, hx, slice_two ln k h ch hk hh hlk, fromHex_two h ch hhex hx,
            Option.bind_eq_bind, Option.bind_some]
          rw [ih fs (k + 1) false _ hfr' hlr' hlen' (by simpa [PInv] using hpg)]
          simp [parseGo, goFlag, hAD, hx, hiOf, hh]
        · simp [stepSpec, hAD, hx, parseGo, goFlag]
      | false =>
        have hp : pairedD (fc :: fs) = true := by simpa [PInv] using hinv
        rw [hk1 false (by simp)]
        by_cases hA : fc = chA
        · subst hA
          by_cases hx : isHexDigit ch = true
          · simp only [stepSpec, if_true, hx, Option.bind_eq_bind, Option.bind_some]
            rw [ih fs (k + 1) false _ hfr' hlr' hlen' (by simpa [PInv, pairedD_cons_ne _ _ chA_ne_chD] using hp)]
            simp [parseGo, goFlag, hx, hiOf]
          · simp [stepSpec, hx, parseGo, goFlag]
        · by_cases hD : fc = chD
          · subst hD
            obtain ⟨gs, rfl, hpg⟩ := pairedD_cons_D fs hp
            by_cases hx : isHexDigit ch = true
            · simp only [stepSpec, hA, if_false, if_true, hx, Option.bind_eq_bind, Option.bind_some, Bool.false_eq_true]
              rw [ih _ (k + 1) true _ hfr' hlr' hlen' (by
                simp only [PInv, if_true]
                exact ⟨ch, gs, by omega, by simpa using hlk, hx, rfl, hpg⟩)]
              simp [parseGo, goFlag, hA, hx, hiOf, hlk]
            · simp [stepSpec, hA, hx, parseGo, goFlag]
          · have hp' : pairedD fs = true := by rw [← pairedD_cons_ne fc fs hD]; exact hp
            by_cases hC : fc = chC
            · subst hC
              simp only [stepSpec, hA, hD, if_false, if_true, Option.bind_eq_bind, Option.bind_some]
              rw [ih fs (k + 1) false _ hfr' hlr' hlen' (by simpa [PInv] using hp')]
              simp [parseGo, goFlag, hA, hD, hiOf]
            · by_cases hL : fc = ch
              · subst hL
                simp only [stepSpec, hA, hD, hC, if_false, if_true, Option.bind_eq_bind, Option.bind_some]
                rw [ih fs (k + 1) false _ hfr' hlr' hlen' (by simpa [PInv] using hp')]
                simp [parseGo, goFlag, hA, hD, hC, hiOf]
              · simp [stepSpec, hA, hD, hC, hL, parseGo, goFlag]

/-- the template walk of `parse` over one line (`for i in range(len(line))` with `break`/`continue`) is the model's `parseGo` -/
theorem forIn_parse {σ} (mk : Bytes → Bool → σ) {fmt ln : Text} {f : Nat → σ → Option (ForInStep σ)}
    (hf : ∀ i fc ch data prev, fmt[i]? = some fc → ln[i]? = some ch → (prev = true → 1 ≤ i) →
      f i (mk data prev) = stepSpec mk ln i fc ch data prev)
    (hlen : ln.length ≤ fmt.length) (hp : pairedD fmt = true) (data : Bytes) :
    forIn (List.range ln.length) (mk data false) f = some (mk (parseGo fmt ln none data) (goFlag fmt ln false)) := by
  have := forIn_parse_aux mk hf ln fmt 0 false data (by simp) (by simp) hlen (by simpa [PInv] using hp)
  simpa [List.range_eq_range', hiOf] using this

/-! ### `parse_dump_data` -/

/-- the end of the region that begins at the `i`-th offset: the next offset, or the end of the data -/
def regionEnd (b : Bytes) (offs : List Nat) (i : Nat) : Nat := (offs[i + 1]?).getD b.length

/-- the trace-buffer loop of `parse_dump_data` (any loop state `σ`; `k` is what the code after the loop reads off the state) -/
theorem forIn_regions {σ} {b : Bytes} {ss : List TraceString} {offs : List Nat}
    {f : Nat × Nat → σ → Option (ForInStep σ)} {k : σ → Option (List Text)}
    (hf : ∀ i o st L, offs[i]? = some o → k st = some L →
      ∃ g : List Text → σ, f (i, o) st = (parseTrace ss (Py.slice b o (regionEnd b offs i))).bind (fun t => some (.yield (g t))) ∧
        ∀ t, k (g t) = some (L ++ formatTraceSection t)) :
    ∀ (rest : List Nat) (i : Nat) (st : σ) (L : List Text), offs.drop i = rest → k st = some L →
      (forIn (Py.enumFrom i rest) st f).bind k =
        (optAll ((traceRegions b rest).map (parseTrace ss))).map (fun ts => L ++ (ts.map formatTraceSection).flatten) := by
  intro rest
  induction rest with
  | nil => intro i st L _ hk; simp [Py.enumFrom, traceRegions, optAll, hk]
  | cons o r ih =>
    intro i st L hdrop hk
    obtain ⟨hio, hdrop'⟩ := of_drop_cons hdrop
    have hnext : offs[i + 1]? = r.head? := by
      have := congrArg List.head? hdrop'; simpa [List.head?_drop] using this
    obtain ⟨g, hg, hkg⟩ := hf i o st L hio hk
    simp only [Py.enumFrom, List.forIn_cons, hg]
    have hreg : (traceRegions b (o :: r)).map (parseTrace ss) =
        parseTrace ss (Py.slice b o (regionEnd b offs i)) :: (traceRegions b r).map (parseTrace ss) := by
      cases r with
      | nil => simp [traceRegions, regionEnd, hnext, slice_to_end]
      | cons o' os => simp [traceRegions, regionEnd, hnext, slice_region]
    rw [hreg]
    cases hpt : parseTrace ss (Py.slice b o (regionEnd b offs i)) with
    | none => simp [optAll]
    | some t =>
      simp only [Option.bind_eq_bind, Option.bind_some, optAll]
      rw [ih (i + 1) (g t) _ hdrop' (hkg t)]
      cases optAll (List.map (parseTrace ss) (traceRegions b r)) <;> simp [List.append_assoc]

/-! ### the literals of the model, spelled out (the generated definitions carry code points) -/

theorem s_ILOG : s "ILOG" = [73, 76, 79, 71] := s_ofList _
theorem s_Trace : s "Trace" = [84, 114, 97, 99, 101] := s_ofList _
theorem dividerLine_eq : dividerLine = [45, 45, 45, 45, 45, 45, 45, 45, 45, 45, 45, 45, 45, 45, 45, 45, 45, 45, 45, 45, 45, 45, 45, 45, 45, 45,
    45, 45, 45, 45, 45, 45, 45, 45, 45, 45, 45, 45, 45, 45, 45, 45, 45, 45, 45, 45, 45, 45, 45, 45, 45, 45, 45, 45, 45, 45, 45, 45, 45, 45, 45, 45,
    45, 45, 45, 45, 45, 45, 45, 45, 45, 45, 45] := rfl
theorem bufferNames_eq : bufferNames =
    [[73, 73, 67, 83], [73, 73, 67, 77], [80, 79, 87, 82], [70, 65, 78, 83], [73, 78, 70, 79], [69, 82, 82, 76]] := by
  unfold bufferNames
  rw [s_ofList, s_ofList, s_ofList, s_ofList, s_ofList, s_ofList]
  decide
theorem traceHeaderStart_eq : traceHeaderStart = [2, 32, 1, 66] := rfl

end Pel.TieHex
