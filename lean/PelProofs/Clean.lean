import PelModel.Clean
/-
  Both `--clean` procedures have one shape: when there is a document, steps that do not touch the input (`body`), then, if asked, its
  removal.  Everything C12 says is proved once for that shape (`cleanTrace`) and read off for the two plans; when a removal is attempted
  and when it succeeds is `cleanTrace_remove_mem`.
-/
namespace Pel

theorem runSteps_fst_mem (p : List Ev) (k : Nat) (fault : Nat → Bool) :
    ∀ x ∈ runSteps p k fault, x.1 ∈ p := by
  induction p generalizing k with
  | nil => exact fun _ hx => nomatch hx
  | cons e es ih =>
    simp only [runSteps]
    split
    · simp
    · exact List.forall_mem_cons.2 ⟨List.mem_cons_self, fun x hx => List.mem_cons_of_mem _ (ih _ x hx)⟩

theorem runSteps_not_mem (p : List Ev) (k : Nat) (fault : Nat → Bool) (e : Ev) (ok : Bool) (h : e ∉ p) :
    (e, ok) ∉ runSteps p k fault := fun hx => h (runSteps_fst_mem p k fault _ hx)

theorem runSteps_append (p q : List Ev) (k : Nat) (fault : Nat → Bool) :
    runSteps (p ++ q) k fault =
      if ∀ j, j < p.length → fault (k + j) = false then p.map (fun e => (e, true)) ++ runSteps q (k + p.length) fault
      else runSteps p k fault := by
  induction p generalizing k with
  | nil => simp
  | cons e es ih =>
    -- the steps of `es` are numbered from `k + 1`: the test on `j < es.length + 1` is split into `j = 0` and the rest
    simp only [List.cons_append, runSteps, ih, List.length_cons, List.map_cons, Nat.forall_lt_succ_left, Nat.add_zero,
      Nat.add_assoc, Nat.add_comm 1]
    cases fault k
    · simp only [Bool.false_eq_true, if_false, true_and]
      split <;> rfl
    · simp

theorem runSteps_single (e : Ev) (k : Nat) (fault : Nat → Bool) : runSteps [e] k fault = [(e, !fault k)] := by
  cases h : fault k <;> simp [runSteps, h]

theorem not_mem_map_true {p : List Ev} {e : Ev} (h : e ∉ p) (ok : Bool) : (e, ok) ∉ p.map (fun e => (e, true)) := fun hm => by
  obtain ⟨e', he, h'⟩ := List.mem_map.1 hm
  exact h ((Prod.mk.inj h').1 ▸ he)

theorem runSteps_prefix_remove (p : List Ev) (hp : Ev.removeIn ∉ p) (k : Nat) (fault : Nat → Bool)
    (pre : List (Ev × Bool)) (hpre : pre <+: runSteps (p ++ [Ev.removeIn]) k fault) (ok : Bool)
    (hrm : (Ev.removeIn, ok) ∈ pre) : pre = p.map (fun e => (e, true)) ++ [(Ev.removeIn, ok)] := by
  have hmap := not_mem_map_true hp ok
  rw [runSteps_append, runSteps_single] at hpre
  split at hpre
  · -- a prefix of `l ++ [x]` is all of it or a prefix of `l`
    rcases List.prefix_concat_iff.1 hpre with h | h
    · subst h
      rcases List.mem_append.1 hrm with h | h
      · exact absurd h hmap
      · rw [List.mem_singleton.1 h]
    · exact absurd (h.subset hrm) hmap
  · exact absurd (hpre.subset hrm) (runSteps_not_mem _ _ _ _ _ hp)

theorem runSteps_remove_mem (p : List Ev) (hp : Ev.removeIn ∉ p) (k : Nat) (fault : Nat → Bool) (ok : Bool) :
    (Ev.removeIn, ok) ∈ runSteps (p ++ [Ev.removeIn]) k fault ↔
      (∀ j, j < p.length → fault (k + j) = false) ∧ ok = !fault (k + p.length) := by
  rw [runSteps_append, runSteps_single]
  split
  · rename_i hall
    simp only [List.mem_append, not_mem_map_true hp ok, false_or, List.mem_singleton, Prod.mk.injEq, true_and]
    exact (and_iff_right hall).symm
  · rename_i hall
    exact ⟨fun h => absurd h (runSteps_not_mem _ _ _ _ _ hp), fun h => absurd h.1 hall⟩

theorem inputRemoved_iff (tr : List (Ev × Bool)) : inputRemoved tr = true ↔ (Ev.removeIn, true) ∈ tr := by
  simp [inputRemoved]

theorem inputRemoved_false_iff (tr : List (Ev × Bool)) : inputRemoved tr = false ↔ (Ev.removeIn, true) ∉ tr := by
  rw [← inputRemoved_iff]; cases inputRemoved tr <;> simp

/-! ### the common shape -/

/-- the steps when there is a document: those of `body`, then, if asked, the removal -/
def cleanPlan (body : List Ev) (clean : Bool) : List Ev := body ++ (if clean then [Ev.removeIn] else [])

/-- `cleanJsonTrace` and `cleanFileTrace` with the steps before the removal as a parameter -/
def cleanTrace (d : DecodeResult) (body : List Ev) (clean : Bool) (fault : Nat → Bool) : List (Ev × Bool) :=
  match d with
  | .doc => runSteps (cleanPlan body clean) 0 fault
  | _ => []

theorem cleanPlan_true (body : List Ev) : cleanPlan body true = body ++ [Ev.removeIn] := rfl
theorem cleanPlan_false (body : List Ev) : cleanPlan body false = body := List.append_nil body

theorem cleanTrace_doc (body : List Ev) (clean : Bool) (fault : Nat → Bool) :
    cleanTrace .doc body clean fault = runSteps (cleanPlan body clean) 0 fault := rfl

def jsonBody (n : Nat) : List Ev := [Ev.openOut] ++ List.replicate n Ev.write ++ [Ev.closeOut]
def fileBody : List Ev := [Ev.print, Ev.flushStdout]

theorem cleanJsonTrace_eq (d : DecodeResult) (n : Nat) (clean : Bool) (fault : Nat → Bool) :
    cleanJsonTrace d n clean fault = cleanTrace d (jsonBody n) clean fault := rfl

theorem cleanFileTrace_eq (d : DecodeResult) (clean : Bool) (fault : Nat → Bool) :
    cleanFileTrace d clean fault = cleanTrace d fileBody clean fault := rfl

theorem jsonBody_no_remove (n : Nat) : Ev.removeIn ∉ jsonBody n := by
  simp [jsonBody, List.mem_replicate]

theorem jsonBody_length (n : Nat) : (jsonBody n).length = n + 2 := by
  simp [jsonBody]

theorem fileBody_no_remove : Ev.removeIn ∉ fileBody := by decide

section
variable {body : List Ev} (hb : Ev.removeIn ∉ body) {d : DecodeResult} {clean : Bool} {fault : Nat → Bool}
include hb

theorem cleanTrace_remove_mem (ok : Bool) :
    (Ev.removeIn, ok) ∈ cleanTrace d body clean fault ↔
      d = .doc ∧ clean = true ∧ (∀ k, k < body.length → fault k = false) ∧ ok = !fault body.length := by
  cases d with
  | doc =>
    rw [cleanTrace_doc]
    cases clean with
    | false =>
      rw [cleanPlan_false]
      exact ⟨fun h => absurd h (runSteps_not_mem _ _ _ _ _ hb), fun h => (nomatch h.2.1)⟩
    | true =>
      rw [cleanPlan_true, runSteps_remove_mem _ hb]
      simp only [Nat.zero_add, true_and]
  | _ => exact ⟨fun h => (nomatch h), fun h => (nomatch h.1)⟩

theorem cleanTrace_remove_after_complete {pre : List (Ev × Bool)} (hpre : pre <+: cleanTrace d body clean fault) {ok : Bool}
    (hrm : (Ev.removeIn, ok) ∈ pre) :
    d = .doc ∧ clean = true ∧ pre = body.map (fun e => (e, true)) ++ [(Ev.removeIn, ok)] := by
  obtain ⟨hd, hc, -⟩ := (cleanTrace_remove_mem hb ok).1 (hpre.subset hrm)
  subst hd hc
  exact ⟨rfl, rfl, runSteps_prefix_remove body hb 0 fault pre hpre ok hrm⟩

theorem cleanTrace_removed_iff :
    inputRemoved (cleanTrace d body clean fault) = true ↔ d = .doc ∧ clean = true ∧ ∀ k, k ≤ body.length → fault k = false := by
  rw [inputRemoved_iff, cleanTrace_remove_mem hb]
  -- `k ≤ n` is `k < n` or `k = n`
  simp only [Nat.le_iff_lt_or_eq, or_imp, forall_and, forall_eq, Bool.true_eq, Bool.not_eq_true']

theorem cleanTrace_kept (h : d ≠ .doc ∨ clean = false ∨ ∃ k, k ≤ body.length ∧ fault k = true) :
    inputRemoved (cleanTrace d body clean fault) = false := by
  refine Bool.eq_false_iff.2 fun hr => ?_
  obtain ⟨hd, hc, hf⟩ := (cleanTrace_removed_iff hb).1 hr
  rcases h with h | h | ⟨k, hk, hk'⟩
  · exact h hd
  · rw [hc] at h; cases h
  · rw [hf k hk] at hk'; cases hk'

end

theorem cleanTrace_mem {d : DecodeResult} {body : List Ev} {clean : Bool} {fault : Nat → Bool} {x : Ev × Bool}
    (h : x ∈ cleanTrace d body clean fault) : x.1 ∈ body ∨ x.1 = Ev.removeIn := by
  cases d with
  | doc =>
    rw [cleanTrace_doc] at h
    have hm := runSteps_fst_mem _ _ _ x h
    cases clean with
    | false => exact .inl (cleanPlan_false body ▸ hm)
    | true => exact (List.mem_append.1 (cleanPlan_true body ▸ hm)).imp_right List.mem_singleton.1
  | _ => exact absurd h List.not_mem_nil

end Pel
