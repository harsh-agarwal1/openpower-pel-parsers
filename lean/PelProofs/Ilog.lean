import PelModel.Ilog
import PelProofs.Bytes
/- `parseIlog` against the declarative `specIlog` (C14): on 16- and 32-bit values the formats, the matching rule and the byte
   look-up of the code are those of the property; the loop runs along the encoded entries. -/
namespace Pel

theorem specTimestamp_length (t : Nat) (h : t < 2 ^ 16) : (specTimestamp t).length = 8 := by
  unfold specTimestamp
  split
  · rw [s_ofList]; rfl
  · have h1 := fmtDecSp_length 2 (t / 3600) (by omega) (by omega)
    have h2 := fmtDec0_length 2 (t % 3600 / 60) (by omega) (by omega)
    have h3 := fmtDec0_length 2 (t % 60) (by omega) (by omega)
    simp only [List.length_append, List.length_singleton, h1, h2, h3]

theorem formatTimestamp_eq (t : Nat) (h : t < 2 ^ 16) : formatTimestamp t = specTimestamp t := by
  unfold formatTimestamp specTimestamp
  by_cases h1 : t = 0xFFFF
  · subst h1; rfl
  · have h2 : ¬ t ≥ 0xFFFF := by omega
    rw [if_neg h2, if_neg h1]
    have e1 : (t - t / 3600 * 3600) / 60 = t % 3600 / 60 := by omega
    have e2 : t - t / 3600 * 3600 - t % 3600 / 60 * 60 = t % 60 := by omega
    simp only [e1, e2]

theorem pteMatches_eq (e : PteEntry) (pte : Nat) (h : pte < 2 ^ 32) :
    pteMatches e pte = specMatches e pte := by
  have hm : pte &&& 0xFFFBFFFF < 2 ^ 32 := by
    have := @Nat.and_le_right pte 0xFFFBFFFF
    omega
  unfold pteMatches specMatches isExactMatch
  rw [show (0xFFFFFFFF - 0x00040000 : Nat) = 0xFFFBFFFF from rfl, fmtHex8_eq pte h, fmtHex8_eq _ hm]
  cases wildMatch e.pattern (hexFix 8 pte) <;> cases isReportedError pte <;> simp

theorem getEntry_eq_find (tbl : List PteEntry) (pte : Nat) (h : pte < 2 ^ 32) :
    getEntry tbl pte = tbl.find? (fun e => specMatches e pte) := by
  induction tbl with
  | nil => rfl
  | cons e es ih =>
    simp only [getEntry, List.find?_cons, pteMatches_eq e pte h, ih]
    cases specMatches e pte <;> simp

theorem pteByte_eq (pte p : Nat) (h : pte < 2 ^ 32) : pteByte pte p = (toBE 4 pte).getD (p - 1) 0 := by
  unfold pteByte
  rw [Nat.mod_eq_of_lt h]

theorem ilogLine_eq (tbl : List PteEntry) (e : IlogEntry) (he : e.WF) :
    ilogLine tbl e.ts e.seq e.pte = specIlogLine tbl e := by
  obtain ⟨hts, hseq, hpte⟩ := he
  have hfun : pteByte e.pte = fun p => (toBE 4 e.pte).getD (p - 1) 0 := by
    funext p; exact pteByte_eq e.pte p hpte
  unfold ilogLine specIlogLine specDescription
  rw [getEntry_eq_find tbl e.pte hpte, formatTimestamp_eq e.ts hts,
    fmtHex4_eq e.seq hseq, fmtHex8_eq e.pte hpte]
  cases List.find? (fun e' => specMatches e' e.pte) tbl with
  | none => rfl
  | some x =>
    simp only [pteMessage, validParams, hfun]
    cases pyFmtOrRaw x.fmt
      (List.map (fun p => (toBE 4 e.pte).getD (p - 1) 0) (List.filter (fun p => decide (1 ≤ p) && decide (p ≤ 4)) x.params)) <;> rfl

theorem ilogLoop_short (tbl : List PteEntry) (b : Bytes) (h : b.length < 8) : ilogLoop tbl b = some [] := by
  unfold ilogLoop
  rw [dif_neg (by omega)]

theorem IlogEntry.enc_length (e : IlogEntry) : e.enc.length = 8 := by
  simp [IlogEntry.enc]

theorem optAll_cons {α} (o : Option α) (r : List (Option α)) : optAll (o :: r) = o.bind fun x => (optAll r).map (x :: ·) := by
  cases o <;> rfl

theorem ilogLoop_enc (tbl : List PteEntry) (e : IlogEntry) (rest : Bytes) (he : e.WF) :
    ilogLoop tbl (e.enc ++ rest) =
      if e.isZero then ilogLoop tbl rest
      else (ilogLine tbl e.ts e.seq e.pte).bind fun l => (ilogLoop tbl rest).map (l :: ·) := by
  obtain ⟨hts, hseq, hpte⟩ := he
  have enc : e.enc ++ rest = [toBE 2 e.ts, toBE 2 e.seq, toBE 4 e.pte].flatten ++ rest := by simp [IlogEntry.enc]
  have hls : [toBE 2 e.ts, toBE 2 e.seq, toBE 4 e.pte].map List.length = [2, 2, 4] := by simp
  have c0 : (e.enc ++ rest).take 2 = toBE 2 e.ts := by rw [enc]; exact slice_flatten _ _ hls rest 0 0 2 rfl rfl rfl
  conv => lhs; unfold ilogLoop
  rw [dif_pos (by simp [e.enc_length]), c0, List.drop_left' e.enc_length, enc, slice_flatten _ _ hls rest 1 2 2 rfl rfl rfl,
    slice_flatten _ _ hls rest 2 4 4 rfl rfl rfl, fromBE_toBE2 e.ts hts, fromBE_toBE2 e.seq hseq, fromBE_toBE4 e.pte hpte]
  simp only []
  -- the loop looks at what follows first; the outcome is the same
  cases ilogLoop tbl rest <;> cases ilogLine tbl e.ts e.seq e.pte <;> simp [IlogEntry.isZero, and_assoc]

theorem ilogLoop_entries (tbl : List PteEntry) (es : List IlogEntry) (tail : Bytes)
    (hes : ∀ e ∈ es, e.WF) (ht : tail.length < 8) :
    ilogLoop tbl (es.flatMap IlogEntry.enc ++ tail) =
      optAll ((es.filter (fun e => !e.isZero)).map (specIlogLine tbl)) := by
  induction es with
  | nil => simpa [optAll] using ilogLoop_short tbl tail ht
  | cons e es ih =>
    have he : e.WF := hes e (by simp)
    rw [List.flatMap_cons, List.append_assoc, ilogLoop_enc tbl e _ he, ih (fun x hx => hes x (by simp [hx])),
      ilogLine_eq tbl e he, List.filter_cons]
    cases e.isZero
    · simp only [Bool.not_false, if_true, Bool.false_eq_true, if_false, List.map_cons, optAll_cons]
    · rfl

/-- the entry that the loop reads from the first eight bytes -/
def IlogEntry.read (b : Bytes) : IlogEntry := ⟨fromBE (b.take 2), fromBE ((b.drop 2).take 2), fromBE ((b.drop 4).take 4)⟩

theorem IlogEntry.read_enc (b : Bytes) (h : 8 ≤ b.length) (hb : ∀ x ∈ b, x < 256) :
    (IlogEntry.read b).WF ∧ (IlogEntry.read b).enc = b.take 8 := by
  obtain ⟨l1, e1⟩ := fromBE_slice b hb 0 2 (by omega)
  obtain ⟨l2, e2⟩ := fromBE_slice b hb 2 2 (by omega)
  obtain ⟨l3, e3⟩ := fromBE_slice b hb 4 4 (by omega)
  rw [List.drop_zero] at l1 e1
  refine ⟨⟨l1, l2, l3⟩, ?_⟩
  simp only [IlogEntry.read, IlogEntry.enc, e1, e2, e3]
  rw [← List.take_add, ← List.take_add]

theorem ilog_columns (A B C m l : Text) (hl : l = A ++ [32] ++ B ++ [32] ++ C ++ [32] ++ m) (hA : A.length = 8) (hB : B.length = 4)
    (hC : C.length = 8) : l.take 8 = A ∧ (l.drop 9).take 4 = B ∧ (l.drop 14).take 8 = C := by
  have e : l = [A, [32], B, [32], C, [32]].flatten ++ m := by simp [hl]
  have hls : [A, [32], B, [32], C, [32]].map List.length = [8, 1, 4, 1, 8, 1] := by simp [hA, hB, hC]
  rw [e]
  exact ⟨slice_flatten _ _ hls m 0 0 8 rfl rfl rfl, slice_flatten _ _ hls m 2 9 4 rfl rfl rfl, slice_flatten _ _ hls m 4 14 8 rfl rfl rfl⟩

end Pel
