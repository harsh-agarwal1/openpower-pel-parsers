import PelModel.Pel
import PelProofs.Frames
import PelProofs.RdAttr
/-
  `Suffixing r`: whatever `r` returns as the rest of its input is a suffix of that input.  It holds of every reader that the full
  decoder `parsePELRd` is made of, on every input (C05: no read addresses bytes outside the file), by closure under `bind`, `if` and
  `match` from the primitives.
-/
namespace Pel

def Suffixing {α} (r : Rd α) : Prop := ∀ st x st', r st = .ok (x, st') → ∃ u, st = u ++ st'

theorem Suffixing.elim {α} {r : Rd α} (h : Suffixing r) {st st' : Bytes} {x : α} (e : r st = .ok (x, st')) : ∃ u, st = u ++ st' :=
  h st x st' e

theorem Suffixing.pure {α} (x : α) : Suffixing (Pure.pure x : Rd α) := by
  intro st y st' h
  cases h; exact ⟨[], rfl⟩

theorem Suffixing.fail {α} (e : Err) : Suffixing (Rd.fail e : Rd α) := by
  intro st y st' h
  cases h

theorem Suffixing.bind {α β} {r : Rd α} {f : α → Rd β} (hr : Suffixing r) (hf : ∀ x, Suffixing (f x)) :
    Suffixing (r >>= f) := by
  intro st y st' h
  obtain ⟨x, st1, h1, h2⟩ := bind_ok_inv h
  obtain ⟨u, hu⟩ := hr.elim h1
  obtain ⟨v, hv⟩ := (hf x).elim h2
  exact ⟨u ++ v, by rw [hu, hv, List.append_assoc]⟩

theorem Suffixing.ite {α} (c : Prop) [Decidable c] {r1 r2 : Rd α} (h1 : Suffixing r1) (h2 : Suffixing r2) :
    Suffixing (if c then r1 else r2) := by
  split <;> assumption

theorem Suffixing.iteBind {α β} {c : Prop} [Decidable c] {r1 r2 : Rd α} {f : α → Rd β}
    (h1 : Suffixing r1) (h2 : Suffixing r2) (hf : ∀ x, Suffixing (f x)) :
    Suffixing (if c then r1 >>= f else r2 >>= f) := by
  split
  · exact Suffixing.bind h1 hf
  · exact Suffixing.bind h2 hf

@[suffixing] theorem Suffixing.getMem (n : Nat) : Suffixing (Pel.getMem n) :=
  fun _ x _ h => ⟨x, (getMem_split h).1⟩

@[suffixing] theorem Suffixing.peek2 : Suffixing Pel.peek2 := by
  intro st x st' h
  cases h; exact ⟨[], rfl⟩

@[suffixing] theorem Suffixing.remaining : Suffixing Pel.remaining := by
  intro st x st' h
  cases h; exact ⟨[], rfl⟩

@[suffixing] theorem Suffixing.getInt (n : Nat) : Suffixing (Pel.getInt n) :=
  Suffixing.bind (Suffixing.getMem n) (fun _ => Suffixing.pure _)

/-- A walk along a reader unfolded once: at each step the head symbol of the reader (`bind`, `if`, `pure`, `Rd.fail`, a
    reader with a lemma tagged `suffixing`, or one in the context) selects the closure lemma, a `match` is split into its
    branches, and nothing is unfolded (`with_reducible`).  `let x ← if c then a else b; rest` elaborates to a join point
    `if c then a >>= jp else b >>= jp`; `Suffixing.iteBind` takes it whole, since splitting on `c` would copy `rest`
    into both goals. -/
macro "suff" : tactic =>
  `(tactic| repeat' with_reducible
      (first
        | intro _ | apply Suffixing.bind | apply Suffixing.iteBind | apply Suffixing.ite | apply Suffixing.pure
        | apply Suffixing.fail | (simp only [suffixing, *]; done) | split | dsimp only))

@[suffixing] theorem Suffixing.getText (n : Nat) : Suffixing (Pel.getText n) := by
  unfold Pel.getText; suff

@[suffixing] theorem Suffixing.getTimestamp : Suffixing Pel.getTimestamp := by
  unfold Pel.getTimestamp; suff

@[suffixing] theorem Suffixing.parseHeader : Suffixing Pel.parseHeader := by
  unfold Pel.parseHeader; suff

@[suffixing] theorem Suffixing.getInts (w n : Nat) : Suffixing (Pel.getInts w n) := by
  induction n with
  | zero => unfold Pel.getInts; suff
  | succ n ih => unfold Pel.getInts; suff

@[suffixing] theorem Suffixing.decodePH (T : Tables) (h : SecHdr) : Suffixing (Pel.decodePH T h) := by
  unfold Pel.decodePH; suff
@[suffixing] theorem Suffixing.decodeUH (T : Tables) (h : SecHdr) (c : Text) : Suffixing (Pel.decodeUH T h c) := by
  unfold Pel.decodeUH; suff
@[suffixing] theorem Suffixing.decodeEH (T : Tables) (h : SecHdr) (c : Text) : Suffixing (Pel.decodeEH T h c) := by
  unfold Pel.decodeEH; suff
@[suffixing] theorem Suffixing.decodeMT (T : Tables) (h : SecHdr) (c : Text) : Suffixing (Pel.decodeMT T h c) := by
  unfold Pel.decodeMT; suff
@[suffixing] theorem Suffixing.decodeLP (T : Tables) (h : SecHdr) (c : Text) : Suffixing (Pel.decodeLP T h c) := by
  unfold Pel.decodeLP; suff
@[suffixing] theorem Suffixing.decodeDefault (h : SecHdr) : Suffixing (Pel.decodeDefault h) := by
  unfold Pel.decodeDefault; suff
@[suffixing] theorem Suffixing.decodeUD (T : Tables) (env : UdEnv) (a : Bool) (h : SecHdr) (c : Text) :
    Suffixing (Pel.decodeUD T env a h c) := by
  unfold Pel.decodeUD; suff
@[suffixing] theorem Suffixing.decodeED (T : Tables) (env : UdEnv) (a : Bool) (h : SecHdr) : Suffixing (Pel.decodeED T env a h) := by
  unfold Pel.decodeED; suff

@[suffixing] theorem Suffixing.readFru : Suffixing Pel.readFru := by
  unfold Pel.readFru; suff
@[suffixing] theorem Suffixing.readPce : Suffixing Pel.readPce := by
  unfold Pel.readPce; suff
@[suffixing] theorem Suffixing.readMruItems (n : Nat) : Suffixing (Pel.readMruItems n) := by
  induction n with
  | zero => unfold Pel.readMruItems; suff
  | succ n ih => unfold Pel.readMruItems; suff
@[suffixing] theorem Suffixing.readMru : Suffixing Pel.readMru := by
  unfold Pel.readMru; suff

@[suffixing] theorem Suffixing.readSubs (fuel size cur : Nat) (f : Option Fru) (p : Option Pce) (m : Option Mru) :
    Suffixing (Pel.readSubs fuel size cur f p m) := by
  induction fuel generalizing cur f p m with
  | zero => unfold Pel.readSubs; suff
  | succ fuel ih => unfold Pel.readSubs; suff

@[suffixing] theorem Suffixing.readCallout : Suffixing Pel.readCallout := by
  unfold Pel.readCallout; suff

@[suffixing] theorem Suffixing.readCallouts (fuel total cur : Nat) : Suffixing (Pel.readCallouts fuel total cur) := by
  induction fuel generalizing cur with
  | zero => unfold Pel.readCallouts; suff
  | succ fuel ih => unfold Pel.readCallouts; suff

@[suffixing] theorem Suffixing.decodeCallouts (T : Tables) (env : SrcEnv) (c : Text) (a : Bool) :
    Suffixing (Pel.decodeCallouts T env c a) := by
  unfold Pel.decodeCallouts; suff

@[suffixing] theorem Suffixing.decodeSRC (T : Tables) (env : SrcEnv) (h : SecHdr) (c : Text) (a : Bool) :
    Suffixing (Pel.decodeSRC T env h c a) := by
  unfold Pel.decodeSRC; suff

@[suffixing] theorem Suffixing.decodeSection (env : Env) (c : Text) (h : SecHdr) : Suffixing (Pel.decodeSection env c h) := by
  unfold Pel.decodeSection; suff

@[suffixing] theorem Suffixing.decodeSections (env : Env) (c : Text) (n : Nat) : Suffixing (Pel.decodeSections env c n) := by
  induction n with
  | zero => unfold Pel.decodeSections; suff
  | succ n ih => unfold Pel.decodeSections; suff

theorem Suffixing.parsePELRd (env : Env) (cfg : SelCfg) : Suffixing (Pel.parsePELRd env cfg) := by
  unfold Pel.parsePELRd; suff

end Pel
