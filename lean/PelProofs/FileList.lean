import PelModel.Cli
/-
  The file list of the directory modes (`getFileList`: filter by extension, sort by name, reverse) and the loops over it:
  the order on names, insertion sort by a key (shared by the model's `sortByName` and the abstract directories of C08),
  what an added file does to the list (C09).  Nothing here looks inside a file.
-/
namespace Pel.C08

/-- which file names `-e` lets through; part of the specification of C08 (see the head of PelProps/C08.lean) -/
def extOk (ext : Option Text) (name : Text) : Bool := match ext with
  | some e => if e = [] then true else splitext name == e
  | none => true

end Pel.C08

namespace Pel

/-! ### `Nodup` under `filter`, `map` and removal; a `filterMap` that is a `filter` -/

theorem nodup_filter_names {α β} (key : α → β) (p : α → Bool) (l : List α) (h : (l.map key).Nodup) :
    ((l.filter p).map key).Nodup :=
  List.Nodup.sublist (List.Sublist.map key List.filter_sublist) h

theorem nodup_map_inj {α β} (f : α → β) (hf : ∀ a b, f a = f b → a = b) (l : List α) (h : l.Nodup) : (l.map f).Nodup := by
  unfold List.Nodup at h ⊢
  exact List.Pairwise.map f (fun a b hab hfab => hab (hf a b hfab)) h

theorem nodup_remove_mid {α} (a b : List α) (j : α) (h : (a ++ j :: b).Nodup) : (a ++ b).Nodup :=
  List.Nodup.sublist (List.Sublist.append (List.Sublist.refl a) (List.sublist_cons_self j b)) h

theorem filterMap_sel {α β γ} (L : List α) (sel : α → Bool) (h : α → β) (g : β → Option γ) (v : α → γ)
    (hg : ∀ x ∈ L, g (h x) = if sel x then some (v x) else none) :
    (L.map h).filterMap g = (L.filter sel).map v := by
  induction L with
  | nil => rfl
  | cons a L ih =>
    have ih' := ih (fun x hx => hg x (by simp [hx]))
    simp only [List.map_cons, List.filterMap_cons, hg a (by simp), List.filter_cons]
    cases sel a <;> simp [ih']

/-! ### `textLt` decides core's lexicographic `<` on lists -/

theorem textLt_iff : ∀ {a b : Text}, textLt a b = true ↔ a < b
  | [], [] => by simp [textLt]
  | [], _ :: _ => by simp [textLt]
  | _ :: _, [] => by simp [textLt]
  | x :: xs, y :: ys => by
    rw [textLt, List.cons_lt_cons_iff, ← textLt_iff]
    by_cases hxy : x < y
    · simp [hxy]
    · by_cases hyx : y < x
      · have : x ≠ y := by omega
        simp [hxy, hyx, this]
      · have : x = y := by omega
        simp [this]

/-! ### generic insertion sort by a `Text` key -/

def insertBy {α} (key : α → Text) (f : α) : List α → List α
  | [] => [f]
  | g :: gs => if textLt (key g) (key f) then g :: insertBy key f gs else f :: g :: gs

def sortBy {α} (key : α → Text) : List α → List α
  | [] => []
  | f :: fs => insertBy key f (sortBy key fs)

/-- the model's `sortByName` and C08's `sortAbs` are insertion sorts written out for their own element types: each is `sortBy` because it
    satisfies the same equations -/
theorem sortBy_unique {α} (key : α → Text) (ins : α → List α → List α) (srt : List α → List α)
    (h1 : ∀ f, ins f [] = [f])
    (h2 : ∀ f g gs, ins f (g :: gs) = if textLt (key g) (key f) then g :: ins f gs else f :: g :: gs)
    (h3 : srt [] = []) (h4 : ∀ f fs, srt (f :: fs) = ins f (srt fs)) : ∀ l, srt l = sortBy key l := by
  have hins : ∀ f l, ins f l = insertBy key f l := by
    intro f l
    induction l with
    | nil => rw [h1]; rfl
    | cons g gs ih => rw [h2, ih]; rfl
  intro l
  induction l with
  | nil => rw [h3]; rfl
  | cons f fs ih => rw [h4, ih, hins]; rfl

theorem sortByName_eq : ∀ l, sortByName l = sortBy (·.name) l :=
  sortBy_unique (·.name) insertByName sortByName (fun _ => rfl) (fun _ _ _ => rfl) rfl (fun _ _ => rfl)

theorem insertBy_map {α β} (key : α → Text) (key' : β → Text) (g : α → β) (hk : ∀ x, key' (g x) = key x) (f : α) (l : List α) :
    (insertBy key f l).map g = insertBy key' (g f) (l.map g) := by
  induction l with
  | nil => rfl
  | cons a l ih =>
    simp only [insertBy, List.map_cons, hk]
    split
    · simp [ih]
    · simp

theorem sortBy_map {α β} (key : α → Text) (key' : β → Text) (g : α → β) (hk : ∀ x, key' (g x) = key x) (l : List α) :
    (sortBy key l).map g = sortBy key' (l.map g) := by
  induction l with
  | nil => rfl
  | cons a l ih => simp only [sortBy, List.map_cons, insertBy_map key key' g hk, ih]

theorem insertBy_perm {α} (key : α → Text) (f : α) (l : List α) : (insertBy key f l).Perm (f :: l) := by
  induction l with
  | nil => exact List.Perm.refl _
  | cons a l ih =>
    simp only [insertBy]
    split
    · exact (List.Perm.cons a ih).trans (List.Perm.swap f a l)
    · exact List.Perm.refl _

theorem sortBy_perm {α} (key : α → Text) (l : List α) : (sortBy key l).Perm l := by
  induction l with
  | nil => exact List.Perm.refl _
  | cons a l ih => exact (insertBy_perm key a _).trans (List.Perm.cons a ih)

theorem mem_sortBy {α} (key : α → Text) (l : List α) (x : α) : x ∈ sortBy key l ↔ x ∈ l :=
  (sortBy_perm key l).mem_iff

def SortedBy {α} (key : α → Text) (l : List α) : Prop := l.Pairwise (fun a b => textLt (key a) (key b) = true)

theorem insertBy_sorted {α} (key : α → Text) (f : α) (l : List α) (hs : SortedBy key l) (hne : ∀ x ∈ l, key x ≠ key f) :
    SortedBy key (insertBy key f l) := by
  induction l with
  | nil => simp [insertBy, SortedBy]
  | cons a l ih =>
    have hs' := List.pairwise_cons.1 hs
    simp only [insertBy]
    split
    · rename_i hlt
      refine List.pairwise_cons.2 ⟨?_, ih hs'.2 (fun x hx => hne x (by simp [hx]))⟩
      intro b hb
      rcases List.mem_cons.1 ((insertBy_perm key f l).mem_iff.1 hb) with rfl | hb
      · exact hlt
      · exact hs'.1 b hb
    · rename_i hlt
      have hfa : key f < key a :=
        (List.le_iff_lt_or_eq.1 (List.not_lt.1 (mt textLt_iff.2 hlt))).resolve_right fun h => hne a (by simp) h.symm
      refine List.pairwise_cons.2 ⟨?_, hs⟩
      intro b hb
      simp only [List.mem_cons] at hb
      rcases hb with rfl | hb
      · exact textLt_iff.2 hfa
      · exact textLt_iff.2 (List.lt_trans hfa (textLt_iff.1 (hs'.1 b hb)))

theorem sortBy_sorted {α} (key : α → Text) (l : List α) (hd : (l.map key).Nodup) : SortedBy key (sortBy key l) := by
  induction l with
  | nil => simp [sortBy, SortedBy]
  | cons a l ih =>
    simp only [List.map_cons, List.nodup_cons] at hd
    refine insertBy_sorted key a _ (ih hd.2) ?_
    intro x hx heq
    have hx' := (mem_sortBy key l x).1 hx
    exact hd.1 (by rw [← heq]; exact List.mem_map_of_mem hx')

/-- the sorted list with `j` added is the old sorted list with `j` somewhere in it: take `j` out of the new one; what is left is sorted and
    has the old elements, and a strictly sorted arrangement is unique -/
theorem sortBy_with_junk {α} (key : α → Text) (d1 d2 : List α) (j : α) (hd : ((d1 ++ j :: d2).map key).Nodup) :
    ∃ a b, sortBy key (d1 ++ j :: d2) = a ++ j :: b ∧ sortBy key (d1 ++ d2) = a ++ b := by
  have hd' : ((d1 ++ d2).map key).Nodup := by
    rw [List.map_append] at hd ⊢
    exact nodup_remove_mid _ _ _ hd
  obtain ⟨a, b, e⟩ := List.append_of_mem ((mem_sortBy key _ j).2 (List.mem_append_right _ List.mem_cons_self))
  have hs := sortBy_sorted key _ hd
  have hp := sortBy_perm key (d1 ++ j :: d2)
  rw [e] at hs hp
  refine ⟨a, b, e, List.Perm.eq_of_pairwise (fun x y _ _ h1 h2 => ?_) (sortBy_sorted key _ hd')
    (hs.sublist (List.Sublist.append (List.Sublist.refl a) (List.sublist_cons_self j b))) ?_⟩
  · exact absurd (textLt_iff.1 h2) (List.lt_asymm (textLt_iff.1 h1))
  · exact (sortBy_perm key _).trans ((List.perm_middle.symm.trans (hp.trans List.perm_middle)).cons_inv).symm

/-! ### the file list -/

/-- filter, sort by a key, reverse on request: what `getFileList` does to a directory and C08's `presented` to an abstract one -/
def presentedBy {α} (key : α → Text) (P : α → Bool) (rev : Bool) (l : List α) : List α :=
  if rev then (sortBy key (l.filter P)).reverse else sortBy key (l.filter P)

theorem getFileList_eq (d : Dir) (ext : Option Text) (rev : Bool) :
    getFileList d ext rev = presentedBy (·.name) (fun f => C08.extOk ext f.name) rev d := by
  unfold getFileList
  simp only [sortByName_eq]
  rfl

theorem presentedBy_perm {α} (key : α → Text) (P : α → Bool) (rev : Bool) (l : List α) : (presentedBy key P rev l).Perm (l.filter P) := by
  cases rev
  · exact sortBy_perm key _
  · exact (List.reverse_perm _).trans (sortBy_perm key _)

theorem mem_presentedBy {α} (key : α → Text) (P : α → Bool) (rev : Bool) (l : List α) (x : α) :
    x ∈ presentedBy key P rev l ↔ x ∈ l ∧ P x = true := by
  rw [(presentedBy_perm key P rev l).mem_iff, List.mem_filter]

theorem mem_getFileList (d : Dir) (ext : Option Text) (rev : Bool) (f : FileEntry) :
    f ∈ getFileList d ext rev ↔ f ∈ d ∧ C08.extOk ext f.name = true := by
  rw [getFileList_eq]
  exact mem_presentedBy _ _ _ _ _

theorem nodup_presentedBy {α β} (key : α → Text) (P q : α → Bool) (rev : Bool) (l : List α) (f : α → β) (h : (l.map f).Nodup) :
    (((presentedBy key P rev l).filter q).map f).Nodup := by
  rw [(((presentedBy_perm key P rev l).filter q).map f).nodup_iff]
  exact nodup_filter_names f q _ (nodup_filter_names f P l h)

theorem presentedBy_map {α β} (key : α → Text) (key' : β → Text) (g : α → β) (hk : ∀ x, key' (g x) = key x) (P : β → Bool) (rev : Bool)
    (l : List α) : presentedBy key' P rev (l.map g) = (presentedBy key (fun x => P (g x)) rev l).map g := by
  unfold presentedBy
  rw [List.filter_map, ← sortBy_map key key' g hk]
  cases rev
  · rfl
  · simp only [if_true, List.map_reverse]; rfl

theorem presentedBy_junk {α} (key : α → Text) (P : α → Bool) (rev : Bool) (d1 d2 : List α) (j : α)
    (hd : ((d1 ++ j :: d2).map key).Nodup) :
    ∃ a b, presentedBy key P rev (d1 ++ d2) = a ++ b ∧
      (presentedBy key P rev (d1 ++ j :: d2) = a ++ j :: b ∨ presentedBy key P rev (d1 ++ j :: d2) = a ++ b) := by
  unfold presentedBy
  simp only [List.filter_append, List.filter_cons]
  by_cases hp : P j = true
  · simp only [hp, if_true]
    have hd' : (((d1.filter P) ++ j :: (d2.filter P)).map key).Nodup := by
      have := nodup_filter_names key P _ hd
      simpa [List.filter_append, List.filter_cons, hp] using this
    obtain ⟨a, b, h1, h2⟩ := sortBy_with_junk key (d1.filter P) (d2.filter P) j hd'
    cases rev
    · exact ⟨a, b, by simpa using h2, Or.inl (by simpa using h1)⟩
    · refine ⟨b.reverse, a.reverse, ?_, Or.inl ?_⟩
      · simp only [if_true, h2, List.reverse_append]
      · simp only [if_true, h1, List.reverse_append, List.reverse_cons, List.append_assoc, List.singleton_append]
  · simp only [hp]
    refine ⟨_, [], (List.append_nil _).symm, Or.inr ?_⟩
    simp

theorem countDiag_junk {α β} (h : α → FileRes β) (a b : List α) (j : α) :
    countDiag ((a ++ b).map h) ≤ countDiag ((a ++ j :: b).map h) := by
  simp only [countDiag, List.map_append, List.map_cons, List.filter_append, List.filter_cons, List.length_append]
  split <;> simp

theorem FileRes.skip_or_diag {α} {r : FileRes α} (h : ∀ x, r ≠ .some x) : r = .skip ∨ r = .diag := by
  cases r with
  | some x => exact absurd rfl (h x)
  | skip => exact .inl rfl
  | diag => exact .inr rfl

/-- every mode is a loop over the file list (`for f in getFileList(…): r = F f; keep G r`), so this one statement serves them all -/
theorem dirLoop_junk {β γ} (F : FileEntry → β) (G : β → Option γ) (d1 d2 : Dir) (j : FileEntry) (ext : Option Text) (rev : Bool)
    (hd : ((d1 ++ j :: d2).map (·.name)).Nodup) (hj : G (F j) = none) :
    ((getFileList (d1 ++ j :: d2) ext rev).map F).filterMap G = ((getFileList (d1 ++ d2) ext rev).map F).filterMap G := by
  rw [getFileList_eq, getFileList_eq]
  obtain ⟨a, b, h0, h1 | h1⟩ := presentedBy_junk _ _ rev d1 d2 j hd <;> rw [h0, h1]
  simp [List.filterMap_append, hj]

theorem dirLoop_junk_diag {β} (F : FileEntry → FileRes β) (d1 d2 : Dir) (j : FileEntry) (ext : Option Text) (rev : Bool)
    (hd : ((d1 ++ j :: d2).map (·.name)).Nodup) :
    countDiag ((getFileList (d1 ++ d2) ext rev).map F) ≤ countDiag ((getFileList (d1 ++ j :: d2) ext rev).map F) := by
  rw [getFileList_eq, getFileList_eq]
  obtain ⟨a, b, h0, h1 | h1⟩ := presentedBy_junk _ _ rev d1 d2 j hd <;> rw [h0, h1]
  · exact countDiag_junk F a b j
  · exact Nat.le_refl _

/-- `dirLoop_junk` for the `-j` loop, which walks the directory unsorted -/
theorem filter_filterMap_junk {α β γ} (p : α → Bool) (h : α → β) (g : β → Option γ) (d1 d2 : List α) (j : α)
    (hj : g (h j) = none) :
    (((d1 ++ j :: d2).filter p).map h).filterMap g = (((d1 ++ d2).filter p).map h).filterMap g := by
  simp only [List.filter_append, List.filter_cons]
  split
  · simp [List.filterMap_append, hj]
  · rfl

end Pel
