import PelProofs.Main
import PelProofs.Select
import PelModel.TransPeltool
/-
  Helper lemmas for the source ties of stream `peltool` (PelProps/TieC01|C07|C10|C11.lean): bit-operation and text-literal
  normal forms, the `Config` block in the normal form the `when_*` lemmas of PelProofs/Main.lean produce, `dispatch` in
  observable terms from the declarative `Chain`, and injectivity of the exit messages.
-/
namespace Pel

theorem and_15 (x : Nat) : x &&& 15 = x % 16 := Nat.and_two_pow_sub_one_eq_mod x 4
theorem s_Unknown : s "Unknown" = [85, 110, 107, 110, 111, 119, 110] := s_ofList _

/-! ### `sevMatches` as a fold (a `for` loop with an early `return True`) -/

/-- a loop `for x in l: if p(x): return True` followed by `return False` -/
theorem foldr_early_true {α : Type} (p : α → Bool) (l : List α) :
    l.foldr (fun x rest => if p x = true then true else rest) false = l.any p := by
  induction l with
  | nil => rfl
  | cons x xs ih => simp only [List.foldr_cons, List.any_cons, ih]; cases p x <;> rfl

theorem sevMatches_foldr (sev : Nat) (l : List Nat) :
    l.foldr (fun g rest => if (sev >>> 4 == g) = true then true else rest) false = sevMatches sev l :=
  (foldr_early_true _ l).trans (sevMatches_any sev l).symm

/-- the `Config` block in normal form (all members of `mkConfig` at once, as an equation between records whose members are
    written with the same operators as the `when_*` lemmas produce) -/
theorem mkConfig_normal (t : List (Text × Nat)) (a : Args) :
    mkConfig t a =
      { sel := { every := a.every || false, term := a.term || false, serviceable := a.serviceable || false,
                 nonServiceable := a.nonServiceable || false, hidden := a.hidden || false, only := a.only || false,
                 severities := [] ++ a.severities.filterMap (sevLookup t), lookup := false },
        allowPlugins := !a.skipPlugins && true, hex := a.hex || false, rev := a.reverse || false, ext := (tv a.extension).or none } := by
  rw [mkConfig_eq]; simp

/-! ### `dispatch` in observable terms -/

/-- what the generated chain has to be compared with, rule by rule of the declarative chain -/
theorem eq_dispatchOutcome_of_chain (g : FsView → Args → PyOutcome × MainCfg)
    (H : ∀ fs a act lk, Chain fs a act lk → g fs a = (act.outcome, cfgOf a lk)) :
    g = dispatchOutcome := by
  funext fs a
  rw [H fs a _ _ (dispatch_chain fs a), dispatchOutcome, ← dispatch_cfg_eq]

/-! ### the exit messages determine the exit site -/

theorem append_right_cancel_lit {a b l : Text} (h : a ++ l = b ++ l) : a = b := List.append_cancel_right h

/-- the character a message ends with tells the four sites apart: `.`, `y`, `t`, `!` -/
def ExitSite.lastChar : ExitSite → Nat
  | .noPath => 46
  | .notDir _ => 121
  | .noOutputDir _ => 116
  | .noExcludeFile _ => 33

theorem getLast?_append_of_getLast? {α : Type} (a : List α) {l : List α} {c : α} (h : l.getLast? = some c) :
    (a ++ l).getLast? = some c := by
  rw [List.getLast?_append, h]; rfl

theorem exitText_getLast? (x : ExitSite) : (exitText x).getLast? = some x.lastChar := by
  cases x with
  | noPath => rw [exitText, s_ofList]; rfl
  | _ => rw [exitText]; apply getLast?_append_of_getLast?; rw [s_ofList]; rfl

theorem exitText_injective : ∀ x y : ExitSite, exitText x = exitText y → x = y := by
  intro x y h
  have hl : x.lastChar = y.lastChar := Option.some.inj (by rw [← exitText_getLast?, ← exitText_getLast?, h])
  cases x <;> cases y <;> first
    | rfl
    -- the same site: the literals around the argument cancel
    | (simp only [exitText, List.append_cancel_right_eq, List.append_cancel_left_eq] at h; rw [h])
    -- two sites
    | (simp [ExitSite.lastChar] at hl; done)

theorem Action.outcome_eq_call {x a : Action} (h : x.outcome = .call a) : x = a := by
  cases x <;> first
    | exact PyOutcome.call.inj h
    | cases h

theorem Action.outcome_injective : ∀ x y : Action, x.outcome = y.outcome → x = y := by
  intro x y h
  cases x with
  | exitMsg m =>
    cases y with
    | exitMsg m' => exact congrArg Action.exitMsg (exitText_injective _ _ (PyOutcome.exit.inj h))
    | _ => cases h
  | _ => exact (Action.outcome_eq_call h.symm).symm

theorem dispatchOutcome_determines (fs : FsView) (a : Args) (act : Action) (c : MainCfg)
    (h : dispatchOutcome fs a = (act.outcome, c)) : dispatch fs a = (act, c) := by
  simp only [dispatchOutcome, Prod.mk.injEq] at h
  exact Prod.ext (Action.outcome_injective _ _ h.1) h.2

/-- `<translated Config block> = mkConfig t a`: literally the model's text, or the same statements in another order / shape (then both
    sides are brought to the normal form of the `when_*` lemmas; what may be left is the order of the operands of `||` / `&&`) -/
macro "tie_config_block" : tactic => `(tactic| first
  | rfl
  | (simp only [when_allowPlugins, when_hex, when_rev, when_serviceable, when_nonServiceable, when_term, when_hidden, when_only,
       when_every, when_severities, when_ext, mkConfig_normal]
     first
       | done
       | rfl
       | (simp [Bool.or_comm, Bool.and_comm]; done)))

end Pel
