import PelModel.Regex
/-
  Lemmas about the backtracking matcher `Re.m` (PelModel/Regex.lean):
    * the fuel of a repeat never runs out (`starM_fuel`), hence the fuel-free unfolding `Re.m_star`;
    * repeats of a single character class: greedy success (`star_chr_ok`), deterministic reading when the
      continuation cannot start with a character of the class (`star_chr_det`);
    * "step" lemmas that walk a `Re.cat` list along an input, for success and for failure proofs.
-/
namespace Pel

/-! ### a match only ever succeeds through its continuation -/

theorem starM_knone (step : Text → Caps → Kont → Option Caps)
    (hstep : ∀ inp c, step inp c (fun _ _ => none) = none) :
    ∀ (n : Nat) (inp : Text) (c : Caps), starM step n inp c (fun _ _ => none) = none := by
  intro n
  induction n with
  | zero => intro inp c; rfl
  | succ n ih =>
    intro inp c
    simp only [starM]
    have : (fun (r : Text) (c' : Caps) => if r.length < inp.length then starM step n r c' (fun _ _ => none) else none)
        = (fun _ _ => none) := by
      funext r c'; simp [ih]
    rw [this, hstep]

theorem Re.m_knone (a : Re) : ∀ (inp : Text) (c : Caps), a.m inp c (fun _ _ => none) = none := by
  induction a with
  | eps => intro inp c; rfl
  | chr p => intro inp c; cases inp with
    | nil => rfl
    | cons x r => simp [Re.m]
  | seq a b iha ihb =>
    intro inp c
    simp only [Re.m]
    have : (fun (r : Text) (c' : Caps) => b.m r c' (fun _ _ => none)) = (fun _ _ => none) := by
      funext r c'; exact ihb r c'
    rw [this, iha]
  | alt a b iha ihb => intro inp c; simp [Re.m, iha, ihb]
  | star a iha => intro inp c; simp only [Re.m]; exact starM_knone a.m iha _ _ _
  | opt a iha => intro inp c; simp [Re.m, iha]
  | grp i a iha => intro inp c; simp only [Re.m]; exact iha inp c

/-! ### the fuel of a repeat never runs out -/

/-- every fuel ≥ the length of the remaining input gives the same answer -/
theorem starM_fuel (step : Text → Caps → Kont → Option Caps)
    (hstep : ∀ inp c, step inp c (fun _ _ => none) = none)
    (n : Nat) (inp : Text) (c : Caps) (k : Kont) (h : inp.length ≤ n) :
    starM step n inp c k = starM step inp.length inp c k := by
  induction n using Nat.strongRecOn generalizing inp c with
  | _ n ih =>
    cases n with
    | zero => rw [show inp.length = 0 by omega]
    | succ n =>
      cases hl : inp.length with
      | zero => simp only [starM, hl, Nat.not_lt_zero, if_false, hstep]
      | succ l =>
        -- both sides unfold alike; the inner repeats run on shorter inputs, where (by `ih`) the fuel does not matter
        simp only [starM]
        congr 2
        funext r c'
        split
        · rw [ih n (by omega) r c' (by omega), ih l (by omega) r c' (by omega)]
        · rfl

/-- fuel-free unfolding of a greedy repeat: one more iteration (that consumes something) first, then stop -/
theorem Re.m_star (a : Re) (inp : Text) (c : Caps) (k : Kont) :
    (Re.star a).m inp c k =
      match a.m inp c (fun r c' => if r.length < inp.length then (Re.star a).m r c' k else none) with
      | some x => some x
      | none => k inp c := by
  show starM a.m inp.length inp c k = _
  rw [← starM_fuel a.m (Re.m_knone a) (inp.length + 1) inp c k (Nat.le_succ _), starM]
  congr 2
  funext r c'
  split
  · exact starM_fuel a.m (Re.m_knone a) _ r c' k (by omega)
  · rfl

/-! ### repeats of one character class -/

theorem Re.m_star_chr_nil (p : CSet) (c : Caps) (k : Kont) : (Re.star (.chr p)).m [] c k = k [] c := by
  rw [Re.m_star]; simp [Re.m]

theorem Re.m_star_chr_cons (p : CSet) (x : Nat) (r : Text) (c : Caps) (k : Kont) :
    (Re.star (.chr p)).m (x :: r) c k =
      if p.test x then (match (Re.star (.chr p)).m r c k with | some y => some y | none => k (x :: r) c)
      else k (x :: r) c := by
  rw [Re.m_star]
  by_cases h : p.test x = true <;> simp [Re.m, h]

/-- the next character (if any) is not in the class: a greedy repeat of the class stops here -/
def StopsAt (p : CSet) (b : Text) : Prop := ∀ y r, b = y :: r → p.test y = false

theorem StopsAt.nil (p : CSet) : StopsAt p [] := by intro y r h; cases h
theorem StopsAt.cons {p : CSet} {y : Nat} {r : Text} (h : p.test y = false) : StopsAt p (y :: r) := by
  intro y' r' e; cases e; exact h
theorem StopsAt.append {p : CSet} {w b : Text} (hw : ∀ z ∈ w, p.test z = false) (hb : StopsAt p b) : StopsAt p (w ++ b) := by
  cases w with
  | nil => exact hb
  | cons z w' => intro y r e; cases e; exact hw _ (List.mem_cons_self ..)

theorem star_chr_stop (p : CSet) (b : Text) (c : Caps) (k : Kont) (hb : StopsAt p b) :
    (Re.star (.chr p)).m b c k = k b c := by
  cases b with
  | nil => exact Re.m_star_chr_nil p c k
  | cons y r => rw [Re.m_star_chr_cons, hb y r rfl]; rfl

theorem star_chr_run (p : CSet) (a b : Text) (c : Caps) (k : Kont) (res : Caps)
    (ha : ∀ x ∈ a, p.test x = true) (hb : (Re.star (.chr p)).m b c k = some res) :
    (Re.star (.chr p)).m (a ++ b) c k = some res := by
  induction a with
  | nil => exact hb
  | cons x a ih =>
    rw [List.cons_append, Re.m_star_chr_cons, ha x (List.mem_cons_self ..), if_pos rfl,
      ih (fun y hy => ha y (List.mem_cons_of_mem _ hy))]

/-- greedy success: the class characters `a` are all consumed when the continuation succeeds behind them -/
theorem star_chr_ok (p : CSet) (a b : Text) (c : Caps) (k : Kont) (res : Caps)
    (ha : ∀ x ∈ a, p.test x = true) (hb : StopsAt p b) (hk : k b c = some res) :
    (Re.star (.chr p)).m (a ++ b) c k = some res :=
  star_chr_run p a b c k res ha (by rw [star_chr_stop p b c k hb, hk])

/-- backtracking success: behind the class characters `a` the continuation succeeds, and it fails at every
    longer split that the repeat could reach inside `b` -/
theorem star_chr_back (p : CSet) (a b : Text) (c : Caps) (k : Kont) (res : Caps)
    (ha : ∀ x ∈ a, p.test x = true)
    (hb : ∀ b1 b2, b = b1 ++ b2 → b1 ≠ [] → (∀ x ∈ b1, p.test x = true) → k b2 c = none)
    (hk : k b c = some res) :
    (Re.star (.chr p)).m (a ++ b) c k = some res := by
  refine star_chr_run p a b c k res ha (hk ▸ ?_)
  clear hk
  induction b with
  | nil => exact Re.m_star_chr_nil p c k
  | cons y r ih =>
    rw [Re.m_star_chr_cons]
    by_cases hy : p.test y = true
    · rw [if_pos hy, ih, hb [y] r rfl (by simp) (by simpa using hy)]
      intro b1 b2 e hne hall
      exact hb (y :: b1) b2 (by rw [e]; rfl) (by simp) (List.forall_mem_cons.2 ⟨hy, hall⟩)
    · rw [if_neg hy]

/-- deterministic reading: a continuation that fails on every input beginning with a class character is only ever
    entered behind the longest run of class characters -/
theorem star_chr_det (p : CSet) (inp : Text) (c : Caps) (k : Kont)
    (hk : ∀ x r, p.test x = true → k (x :: r) c = none) :
    (Re.star (.chr p)).m inp c k = k (inp.dropWhile p.test) c := by
  induction inp with
  | nil => exact Re.m_star_chr_nil p c k
  | cons x r ih =>
    rw [Re.m_star_chr_cons]
    by_cases hx : p.test x = true
    · rw [if_pos hx, ih, List.dropWhile_cons_of_pos hx]
      cases hd : k (List.dropWhile p.test r) c with
      | some y => rfl
      | none => exact hk x r hx
    · rw [if_neg hx, List.dropWhile_cons_of_neg hx]

theorem dropWhile_append_stop (p : CSet) (w b : Text) (hw : ∀ x ∈ w, p.test x = true) (hb : StopsAt p b) :
    (w ++ b).dropWhile p.test = b := by
  rw [List.dropWhile_append_of_pos hw]
  cases b with
  | nil => rfl
  | cons y r => rw [List.dropWhile_cons_of_neg]; rw [hb y r rfl]; simp

/-! ### walking a `Re.cat` list along the input: success steps -/

theorem take_len_sub (l a b : Text) (h : l = a ++ b) : l.take (l.length - b.length) = a := by
  subst h; simp

theorem cat_nil (inp : Text) (c : Caps) (k : Kont) : (Re.cat []).m inp c k = k inp c := rfl

theorem cat_cons (a : Re) (rest : List Re) (inp : Text) (c : Caps) (k : Kont) :
    (Re.cat (a :: rest)).m inp c k = a.m inp c (fun r c' => (Re.cat rest).m r c' k) := rfl

theorem step_lit (x : Nat) (rest : List Re) (r : Text) (c : Caps) (k : Kont) :
    (Re.cat (.chr (.lit x) :: rest)).m (x :: r) c k = (Re.cat rest).m r c k := by
  simp [cat_cons, Re.m, CSet.test]

theorem step_chr (p : CSet) (x : Nat) (rest : List Re) (r : Text) (c : Caps) (k : Kont) (h : p.test x = true) :
    (Re.cat (.chr p :: rest)).m (x :: r) c k = (Re.cat rest).m r c k := by
  simp [cat_cons, Re.m, h]

theorem step_star (p : CSet) {rest : List Re} {a b : Text} {c : Caps} {k : Kont} {res : Caps}
    (ha : ∀ x ∈ a, p.test x = true) (hb : StopsAt p b) (h : (Re.cat rest).m b c k = some res) :
    (Re.cat (.star (.chr p) :: rest)).m (a ++ b) c k = some res := by
  rw [cat_cons]; exact star_chr_ok p a b c _ res ha hb h

theorem step_plus (p : CSet) (rest : List Re) (x : Nat) (a b : Text) (c : Caps) (k : Kont) (res : Caps)
    (hx : p.test x = true) (ha : ∀ y ∈ a, p.test y = true) (hb : StopsAt p b) (h : (Re.cat rest).m b c k = some res) :
    (Re.cat (Re.plus (.chr p) :: rest)).m (x :: (a ++ b)) c k = some res := by
  rw [cat_cons]
  simp only [Re.plus, Re.m, hx, if_true]
  exact star_chr_ok p a b c _ res ha hb h

theorem step_grp_star (i : Nat) (p : CSet) {rest : List Re} {a b : Text} {c : Caps} {k : Kont} {res : Caps}
    (ha : ∀ x ∈ a, p.test x = true) (hb : StopsAt p b) (h : (Re.cat rest).m b ((i, a) :: c) k = some res) :
    (Re.cat (.grp i (.star (.chr p)) :: rest)).m (a ++ b) c k = some res := by
  rw [cat_cons]
  simp only [Re.m]
  apply star_chr_ok p a b c _ res ha hb
  simp only [take_len_sub (a ++ b) a b rfl]
  exact h

/-- a capturing greedy repeat that has to give characters back: the continuation fails at every longer split -/
theorem step_grp_star_back (i : Nat) (p : CSet) {rest : List Re} {a b : Text} {c : Caps} {k : Kont} {res : Caps}
    (ha : ∀ x ∈ a, p.test x = true)
    (hb : ∀ b1 b2, b = b1 ++ b2 → b1 ≠ [] → (∀ x ∈ b1, p.test x = true) → ∀ c', (Re.cat rest).m b2 c' k = none)
    (h : (Re.cat rest).m b ((i, a) :: c) k = some res) :
    (Re.cat (.grp i (.star (.chr p)) :: rest)).m (a ++ b) c k = some res := by
  rw [cat_cons]
  simp only [Re.m]
  apply star_chr_back p a b c _ res ha
  · intro b1 b2 e hne hall; exact hb b1 b2 e hne hall _
  · simp only [take_len_sub (a ++ b) a b rfl]
    exact h

theorem step_grp_plus (i : Nat) (p : CSet) {rest : List Re} {x : Nat} {a b : Text} {c : Caps} {k : Kont} {res : Caps}
    (hx : p.test x = true) (ha : ∀ y ∈ a, p.test y = true) (hb : StopsAt p b)
    (h : (Re.cat rest).m b ((i, x :: a) :: c) k = some res) :
    (Re.cat (.grp i (Re.plus (.chr p)) :: rest)).m (x :: (a ++ b)) c k = some res := by
  rw [cat_cons]
  simp only [Re.plus, Re.m, hx, if_true]
  apply star_chr_ok p a b c _ res ha hb
  simp only [take_len_sub (x :: (a ++ b)) (x :: a) b rfl]
  exact h

theorem step_grp_chr (i : Nat) (p : CSet) {rest : List Re} {x : Nat} {r : Text} {c : Caps} {k : Kont}
    (hx : p.test x = true) :
    (Re.cat (.grp i (.chr p) :: rest)).m (x :: r) c k = (Re.cat rest).m r ((i, [x]) :: c) k := by
  rw [cat_cons]
  simp only [Re.m, hx, if_true]
  rw [take_len_sub (x :: r) [x] r rfl]

theorem step_opt_lit_some {x : Nat} {rest : List Re} {r : Text} {c : Caps} {k : Kont} {res : Caps}
    (h : (Re.cat rest).m r c k = some res) :
    (Re.cat (.opt (.chr (.lit x)) :: rest)).m (x :: r) c k = some res := by
  rw [cat_cons]
  simp [Re.m, CSet.test, h]

theorem step_opt_none {a : Re} {rest : List Re} {inp : Text} {c : Caps} {k : Kont}
    (h : a.m inp c (fun r c' => (Re.cat rest).m r c' k) = none) :
    (Re.cat (.opt a :: rest)).m inp c k = (Re.cat rest).m inp c k := by
  rw [cat_cons]
  simp only [Re.m, h]

theorem kEnd_nil (c : Caps) : kEnd [] c = some c := rfl

theorem fail_lit_nil {x : Nat} {rest : List Re} {c : Caps} {k : Kont} :
    (Re.cat (.chr (.lit x) :: rest)).m [] c k = none := by
  simp [cat_cons, Re.m]

theorem fail_lit {x y : Nat} {rest : List Re} {r : Text} {c : Caps} {k : Kont} (h : y ≠ x) :
    (Re.cat (.chr (.lit x) :: rest)).m (y :: r) c k = none := by
  simp [cat_cons, Re.m, CSet.test, h]

theorem det_star_lit (p : CSet) (x : Nat) {rest : List Re} {inp : Text} {c : Caps} {k : Kont}
    (hx : p.test x = false) :
    (Re.cat (.star (.chr p) :: .chr (.lit x) :: rest)).m inp c k =
      (Re.cat (.chr (.lit x) :: rest)).m (inp.dropWhile p.test) c k := by
  rw [cat_cons]
  apply star_chr_det
  intro y r hy
  apply fail_lit
  intro e; subst e; rw [hx] at hy; cases hy

/-- a class run closed by a literal outside the class reads deterministically: the run, then the literal -/
theorem star_lit (p : CSet) (x : Nat) {rest : List Re} {a r : Text} {c : Caps} {k : Kont}
    (ha : ∀ y ∈ a, p.test y = true) (hx : p.test x = false) :
    (Re.cat (.star (.chr p) :: .chr (.lit x) :: rest)).m (a ++ x :: r) c k = (Re.cat rest).m r c k := by
  rw [det_star_lit p x hx, dropWhile_append_stop p a _ ha (StopsAt.cons hx), step_lit]

/-- and it fails when the run is followed by another character -/
theorem fail_star_lit (p : CSet) (x d : Nat) {rest : List Re} {a r : Text} {c : Caps} {k : Kont}
    (ha : ∀ y ∈ a, p.test y = true) (hx : p.test x = false) (hd : p.test d = false) (hne : d ≠ x) :
    (Re.cat (.star (.chr p) :: .chr (.lit x) :: rest)).m (a ++ d :: r) c k = none := by
  rw [det_star_lit p x hx, dropWhile_append_stop p a _ ha (StopsAt.cons hd)]
  exact fail_lit hne

theorem capGet_cons (j : Nat) (t : Text) (c : Caps) (i : Nat) :
    capGet ((j, t) :: c) i = if j = i then some t else capGet c i := by
  by_cases h : j = i <;> simp [capGet, h]

theorem isPySpace_ne (x y : Nat) (hx : isPySpace x = true) (hy : isPySpace y = false) : x ≠ y := by
  intro e; subst e; rw [hx] at hy; cases hy

/-! ### membership in the classes the patterns use -/

theorem test_notLit {c x : Nat} (h : x ≠ c) : CSet.test (.notLit c) x = true := by simp [CSet.test, h]
theorem test_dot {x : Nat} (h : x ≠ 10) : CSet.test .dot x = true := test_notLit h
theorem test_digit {x : Nat} (h : 48 ≤ x ∧ x ≤ 57) : CSet.test .digit x = true := by simp [CSet.test, h.1, h.2]

end Pel
