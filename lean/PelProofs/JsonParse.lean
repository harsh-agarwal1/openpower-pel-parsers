import PelProofs.JsonText
import PelProofs.JsonObj
/- `loads` inverts the structural rendering `aText` (hence `dumps` and the aligned output). -/
namespace Pel

theorem hex4Val_hex4L (c : Nat) (r : Text) (h : c < 65536) : hex4Val (hex4L c ++ r) = some (c, r) := by
  have e : c / 4096 % 16 * 4096 + c / 256 % 16 * 256 + c / 16 % 16 * 16 + c % 16 = c := by omega
  simp only [hex4L, List.cons_append, List.nil_append, hex4Val, isHexDigit_hexL, hexVal_hexL,
    Bool.and_self, if_true, e]

/-- the text does not continue with a `\uDC00`..`\uDFFF` escape -/
def noLowAhead (r : Text) : Prop :=
  ∀ r3, r = 92 :: 117 :: r3 → ∀ u2 r4, hex4Val r3 = some (u2, r4) → ¬ (0xDC00 ≤ u2 ∧ u2 ≤ 0xDFFF)

theorem scan_u (fuel u : Nat) (r acc : Text) (hu : u < 65536)
    (h : ¬(0xD800 ≤ u ∧ u ≤ 0xDBFF) ∨ noLowAhead r) :
    scanString (fuel+1) (92 :: 117 :: (hex4L u ++ r)) acc = scanString fuel r (acc ++ [u]) := by
  rw [scanString]
  simp only [Nat.reduceEqDiff, if_false, if_true, hex4Val_hex4L u r hu]
  by_cases hs : 0xD800 ≤ u ∧ u ≤ 0xDBFF
  · rw [if_pos hs]
    split
    · split
      · rename_i r3 _ u2 r4 he
        rw [if_neg ((h.resolve_left (not_not_intro hs)) r3 rfl u2 r4 he)]
      · rfl
    · rfl
  · rw [if_neg hs]

theorem scan_pair (fuel hi lo : Nat) (r acc : Text) (hhi : 0xD800 ≤ hi ∧ hi ≤ 0xDBFF) (hlo : 0xDC00 ≤ lo ∧ lo ≤ 0xDFFF) :
    scanString (fuel+1) (92 :: 117 :: (hex4L hi ++ 92 :: 117 :: (hex4L lo ++ r))) acc
      = scanString fuel r (acc ++ [0x10000 + (hi - 0xD800) * 1024 + (lo - 0xDC00)]) := by
  rw [scanString]
  simp only [Nat.reduceEqDiff, if_false, if_true, hex4Val_hex4L hi _ (by omega), hex4Val_hex4L lo _ (by omega), if_pos hhi, if_pos hlo]

theorem scan_short (fuel : Nat) (r acc : Text) : ∀ p ∈ escShort,
    scanString (fuel+1) (92 :: p.2 :: r) acc = scanString fuel r (acc ++ [p.1]) := by
  simp only [escShort, List.forall_mem_cons, List.not_mem_nil, false_imp_iff, implies_true, and_true]
  exact ⟨rfl, rfl, rfl, rfl, rfl, rfl, rfl⟩

theorem scan_char (fuel c : Nat) (r acc : Text) (hc : c < 0x110000)
    (h : ¬(0xD800 ≤ c ∧ c ≤ 0xDBFF) ∨ noLowAhead r) :
    scanString (fuel+1) (escChar c ++ r) acc = scanString fuel r (acc ++ [c]) := by
  rcases escChar_shape c with ⟨e, he, hs⟩ | ⟨h1, h2, h3, h4, hs⟩ | ⟨h1, hs⟩ | ⟨h1, hs⟩ <;> rw [hs]
  · exact scan_short fuel r acc _ he
  · have h5 : ¬ c < 32 := by omega
    simp only [List.cons_append, List.nil_append, scanString, if_neg h3, if_neg h4, if_neg h5]
  · exact scan_u fuel c r acc h1 h
  · have e : 0x10000 + (55296 + (c - 65536) / 1024 - 0xD800) * 1024 + (56320 + (c - 65536) % 1024 - 0xDC00) = c := by
      omega
    simp only [List.cons_append, List.append_assoc]
    rw [scan_pair fuel _ _ r acc (by omega) (by omega), e]

theorem noLowAhead_quote (rest : Text) : noLowAhead (34 :: rest) := by
  intro r3 h; cases h

theorem noLowAhead_escChar (d : Nat) (r : Text) (hd : d < 0x110000) (hl : ¬(0xDC00 ≤ d ∧ d ≤ 0xDFFF)) :
    noLowAhead (escChar d ++ r) := by
  intro r3 he u2 r4 hv
  rcases escChar_shape d with ⟨e, hm, hs⟩ | ⟨_, h2, _, _, hs⟩ | ⟨h1, hs⟩ | ⟨h1, hs⟩ <;>
    rw [hs] at he <;> simp only [List.cons_append, List.nil_append, List.append_assoc, List.cons.injEq, true_and] at he
  · have := escShort_ne_u _ hm; omega
  · omega
  · rw [← he, hex4Val_hex4L d r h1, Option.some.injEq, Prod.mk.injEq] at hv
    omega
  · rw [← he, hex4Val_hex4L _ _ (by omega), Option.some.injEq, Prod.mk.injEq] at hv
    omega

theorem strOk_cons (c : Nat) (t : Text) (h : strOk (c :: t) = true) : c < 0x110000 ∧ strOk t = true := by
  cases t with
  | nil => simp [strOk] at h ⊢; exact h
  | cons d r =>
    simp only [strOk, Bool.and_eq_true, decide_eq_true_eq] at h
    exact ⟨h.1.1, h.2⟩

theorem strOk_cons2 (c d : Nat) (t : Text) (h : strOk (c :: d :: t) = true) :
    ¬(0xD800 ≤ c ∧ c ≤ 0xDBFF) ∨ ¬(0xDC00 ≤ d ∧ d ≤ 0xDFFF) := by
  simp only [strOk, Bool.and_eq_true, decide_eq_true_eq, Bool.not_eq_true', Bool.and_eq_false_iff,
    decide_eq_false_iff_not] at h
  omega

theorem escChar_length_pos (c : Nat) : 1 ≤ (escChar c).length := by
  rcases escChar_shape c with ⟨e, _, hs⟩ | ⟨_, _, _, _, hs⟩ | ⟨_, hs⟩ | ⟨_, hs⟩ <;> rw [hs] <;>
    simp only [List.length_cons, List.length_append] <;> omega

theorem scanString_render (t : Text) : ∀ (fuel : Nat) (rest acc : Text), strOk t = true →
    (t.flatMap escChar).length + 1 ≤ fuel →
    scanString fuel (t.flatMap escChar ++ 34 :: rest) acc = .ok (acc ++ t) rest := by
  induction t with
  | nil =>
    intro fuel rest acc _ hf
    obtain ⟨f, rfl⟩ : ∃ f, fuel = f + 1 := ⟨fuel - 1, by omega⟩
    simp [scanString]
  | cons c t ih =>
    intro fuel rest acc hs hf
    have := escChar_length_pos c
    rw [List.flatMap_cons, List.length_append] at hf
    obtain ⟨f, rfl⟩ : ∃ f, fuel = f + 1 := ⟨fuel - 1, by omega⟩
    have ⟨hc, hst⟩ := strOk_cons c t hs
    rw [List.flatMap_cons, List.append_assoc, scan_char f c _ _ hc, ih f rest (acc ++ [c]) hst (by omega),
      List.append_assoc, List.singleton_append]
    cases t with
    | nil => exact .inr (noLowAhead_quote rest)
    | cons d t' =>
      rw [List.flatMap_cons, List.append_assoc]
      exact (strOk_cons2 c d t' hs).imp_right (noLowAhead_escChar d _ (strOk_cons d t' hst).1)

/-- with the fuel that `parseValue` and `parseMembers` give the string scanner -/
theorem scanString_renderStr (t rest : Text) (h : strOk t = true) :
    scanString ((t.flatMap escChar ++ 34 :: rest).length + 1) (t.flatMap escChar ++ 34 :: rest) [] = .ok t rest :=
  scanString_render t _ rest [] h (by rw [List.length_append]; omega)

/-- what may follow a value in the printed text: end of text, a comma or a newline -/
def sepOk (rest : Text) : Prop := ∀ c r, rest = c :: r → c = 44 ∨ c = 10

theorem sepOk_nil : sepOk [] := by intro c r h; cases h
theorem sepOk_comma (R : Text) : sepOk (44 :: R) := by intro c r h; cases h; left; rfl
theorem sepOk_nl (R : Text) : sepOk (10 :: R) := by intro c r h; cases h; right; rfl
theorem sepOk_more {α} (r : List α) (t R : Text) : sepOk ((if r = [] then [] else 44 :: 10 :: t) ++ 10 :: R) := by
  cases r
  · exact sepOk_nl _
  · exact sepOk_comma _

theorem takeWhileDigits_append (ds rest : Text) (hds : ∀ c ∈ ds, 48 ≤ c ∧ c ≤ 57) (hr : sepOk rest) :
    takeWhileDigits (ds ++ rest) = (ds, rest) := by
  have hp : ∀ a ∈ ds, takeWhileDigits.isDigitC' a = true := by
    intro a ha; have := hds a ha
    simp [takeWhileDigits.isDigitC', this]
  unfold takeWhileDigits
  rw [List.takeWhile_append_of_pos hp, List.dropWhile_append_of_pos hp]
  cases rest with
  | nil => simp
  | cons c r =>
    have hc : takeWhileDigits.isDigitC' c = false := by
      rcases hr c r rfl with h | h <;> subst h <;> decide
    simp [hc]

theorem scanNumber_pos (d : Nat) (dr rest : Text) (hd : 48 ≤ d ∧ d ≤ 57)
    (hdr : ∀ c ∈ dr, 48 ≤ c ∧ c ≤ 57) (h0 : d = 48 → dr = []) (hr : sepOk rest) :
    scanNumber (d :: dr ++ rest) = .ok (decVal (d :: dr) : Int) rest := by
  have htw : takeWhileDigits (d :: (dr ++ rest)) = (d :: dr, rest) :=
    takeWhileDigits_append (d :: dr) rest (List.forall_mem_cons.2 ⟨hd, hdr⟩) hr
  have h48 : ¬ (d = 48 ∧ dr ≠ []) := fun h => h.2 (h0 h.1)
  unfold scanNumber
  rw [scanNumber.match_1.eq_2 _ _ _ _ (by
    intro r h; simp only [List.cons_append, List.cons.injEq] at h; omega)]
  simp only [List.cons_append, htw, h48, if_false]
  cases rest with
  | nil => simp
  | cons c r =>
    rcases hr c r rfl with h | h <;> subst h <;> simp

theorem scanNumber_neg (d : Nat) (dr rest : Text) (hd : 48 ≤ d ∧ d ≤ 57)
    (hdr : ∀ c ∈ dr, 48 ≤ c ∧ c ≤ 57) (h0 : d = 48 → dr = []) (hr : sepOk rest) :
    scanNumber (45 :: d :: dr ++ rest) = .ok (-(decVal (d :: dr) : Int)) rest := by
  have htw : takeWhileDigits (d :: (dr ++ rest)) = (d :: dr, rest) :=
    takeWhileDigits_append (d :: dr) rest (List.forall_mem_cons.2 ⟨hd, hdr⟩) hr
  have h48 : ¬ (d = 48 ∧ dr ≠ []) := fun h => h.2 (h0 h.1)
  unfold scanNumber
  simp only [List.cons_append, htw, h48, if_false]
  cases rest with
  | nil => simp
  | cons c r =>
    rcases hr c r rfl with h | h <;> subst h <;> simp

theorem scanNumber_intDec (k : Int) (rest : Text) (hr : sepOk rest) :
    scanNumber (intDec k ++ rest) = .ok k rest := by
  cases k with
  | ofNat v =>
    obtain ⟨d, dr, e, hd, hdr, h0, hval⟩ := natDec_shape v
    simp only [intDec, e]
    rw [scanNumber_pos d dr rest hd hdr h0 hr, hval]
    rfl
  | negSucc v =>
    obtain ⟨d, dr, e, hd, hdr, h0, hval⟩ := natDec_shape (v + 1)
    simp only [intDec, e]
    rw [scanNumber_neg d dr rest hd hdr h0 hr, hval]
    rfl

theorem s_NaN : s "NaN" = [78, 97, 78] := s_ofList _
theorem s_Inf : s "Infinity" = [73, 110, 102, 105, 110, 105, 116, 121] := s_ofList _
theorem s_NInf : s "-Infinity" = [45, 73, 110, 102, 105, 110, 105, 116, 121] := s_ofList _

theorem parseValue_num (f : Nat) (k : Int) (rest : Text) (hr : sepOk rest) :
    parseValue (f+1) (intDec k ++ rest) = .ok (.num k) rest := by
  have hsn := scanNumber_intDec k rest hr
  obtain ⟨c, r, e, hc⟩ := intDec_head k
  rw [e] at hsn ⊢
  rw [List.cons_append] at hsn ⊢
  simp only [parseValue, hsn, s_null, s_true, s_false, s_NaN, s_Inf, s_NInf, List.isPrefixOf, Bool.and_eq_true, beq_iff_eq]
  -- a digit, or a minus sign followed by a digit: every test of `parseValue` on the first characters is decided
  rcases hc with hc | ⟨rfl, d, r', rfl, hd⟩
  · simp (disch := omega) only [if_neg, if_pos]
  · simp (disch := omega) only [List.cons_append, List.isPrefixOf, Bool.and_eq_true, beq_iff_eq, if_neg, true_or, if_true]

/-- what `skipWs` skips (`skipWs_ws_append`): the indentation and the alignment gaps -/
def wsOnly (ws : Text) : Prop := ∀ c ∈ ws, isJsonWs c = true

theorem wsOnly_nil : wsOnly [] := by intro c h; cases h

theorem wsOnly_spaces (k : Nat) : wsOnly (spaces k) := by
  intro c h
  simp only [spaces, List.mem_replicate] at h
  rw [h.2]; rfl

theorem wsOnly_indentOf (lvl : Nat) : wsOnly (indentOf lvl) := wsOnly_spaces _

theorem wsOnly_alignGap (n lvl : Nat) (k : Text) (v : J) : wsOnly (alignGap n lvl k v) := by
  unfold alignGap
  split
  · exact wsOnly_nil
  · exact wsOnly_spaces _

theorem skipWs_ws_append (ws t : Text) (h : wsOnly ws) : skipWs (ws ++ t) = skipWs t := by
  unfold skipWs
  rw [List.dropWhile_append_of_pos h]

theorem skipWs_nl (t : Text) : skipWs (10 :: t) = skipWs t := by
  simp [skipWs, isJsonWs]

theorem skipWs_sp (t : Text) : skipWs (32 :: t) = skipWs t := by
  simp [skipWs, isJsonWs]

theorem skipWs_nonws (c : Nat) (r : Text) (h : isJsonWs c = false) : skipWs (c :: r) = c :: r := by
  simp [skipWs, h]

/-! ### nothing to skip before a printed value or key -/

theorem skipWs_aText (n : Nat) (d : J) (lvl : Nat) (rest : Text) :
    skipWs (aText n d lvl ++ rest) = aText n d lvl ++ rest := by
  obtain ⟨c, r, e, hc⟩ := aText_head n d lvl
  rw [e, List.cons_append, skipWs_nonws c _ (isJsonWs_visible c ⟨hc.1, hc.2.1⟩)]

theorem skipWs_renderStr (k X : Text) : skipWs (renderStr k ++ X) = renderStr k ++ X := by
  simp only [renderStr, List.cons_append, List.nil_append]
  exact skipWs_nonws _ _ (by decide)

/- The fuel that parsing a printed value takes: one unit for each call of `parseValue`, and one more for each item or member,
   spent by the list walk that reads it. -/
mutual
  def J.sz : J → Nat
    | .arr l => 1 + szItems l
    | .obj l => 1 + szMembers l
    | .null => 1
    | .bool _ => 1
    | .num _ => 1
    | .str _ => 1
  def szItems : List J → Nat
    | [] => 0
    | x :: r => 1 + x.sz + szItems r
  def szMembers : List (Text × J) → Nat
    | [] => 0
    | (_, v) :: r => 1 + v.sz + szMembers r
end

theorem J.sz_pos (d : J) : 1 ≤ d.sz := by
  cases d <;> simp only [J.sz] <;> omega

mutual
  theorem sz_le_aText (n : Nat) : ∀ (d : J) (lvl : Nat), d.sz ≤ (aText n d lvl).length
    | .null, _ => by simp [J.sz, aText, s_null]
    | .bool true, _ => by simp [J.sz, aText, s_true]
    | .bool false, _ => by simp [J.sz, aText, s_false]
    | .num k, _ => by
      obtain ⟨c, r, e, _⟩ := intDec_head k
      simp [J.sz, aText, e]
    | .str t, _ => by simp [J.sz, aText, renderStr]
    | .arr [], _ => by simp [J.sz, szItems, aText, s_arr]
    | .arr (x :: xs), lvl => by
      have := sz_le_aItems n (x :: xs) (lvl + 1)
      simp only [J.sz, aText, List.length_append, List.length_cons, List.length_nil]
      omega
    | .obj [], _ => by simp [J.sz, szMembers, aText, s_obj]
    | .obj (kv :: kvs), lvl => by
      have := sz_le_aMembers n (kv :: kvs) (lvl + 1)
      simp only [J.sz, aText, List.length_append, List.length_cons, List.length_nil]
      omega
  theorem sz_le_aItems (n : Nat) : ∀ (l : List J) (lvl : Nat), szItems l ≤ (aItems n l lvl).length + 1
    | [], _ => by simp [szItems]
    | [x], lvl => by
      have := sz_le_aText n x lvl
      simp only [szItems, aItems, List.length_append]
      omega
    | x :: y :: r, lvl => by
      have := sz_le_aText n x lvl
      have := sz_le_aItems n (y :: r) lvl
      simp only [szItems, aItems, List.length_append, List.length_cons, List.length_nil] at this ⊢
      omega
  theorem sz_le_aMembers (n : Nat) : ∀ (l : List (Text × J)) (lvl : Nat), szMembers l ≤ (aMembers n l lvl).length + 1
    | [], _ => by simp [szMembers]
    | [(k, v)], lvl => by
      have := sz_le_aText n v lvl
      simp only [szMembers, aMembers, List.length_append]
      omega
    | (k, v) :: kv :: r, lvl => by
      have := sz_le_aText n v lvl
      have := sz_le_aMembers n (kv :: r) lvl
      simp only [szMembers, aMembers, List.length_append, List.length_cons, List.length_nil] at this ⊢
      omega
end

/-! ### values, items and members, along the definition of the printed text -/

theorem fuel_succ {d : J} {fuel : Nat} (h : d.sz ≤ fuel) : ∃ f, fuel = f + 1 :=
  ⟨fuel - 1, by have := d.sz_pos; omega⟩

theorem membersDistinct_nodup : ∀ (l : List (Text × J)) (seen : List Text), membersDistinct l seen = true →
    (l.map (·.1)).Nodup ∧ ∀ k ∈ l.map (·.1), k ∉ seen
  | [], _, _ => by simp
  | (k, v) :: r, seen, h => by
    simp only [membersDistinct, Bool.and_eq_true, Bool.not_eq_true', List.contains_eq_mem, decide_eq_false_iff_not] at h
    have ih := membersDistinct_nodup r (k :: seen) h.2
    rw [List.map_cons, List.nodup_cons]
    refine ⟨⟨fun hk => ih.2 k hk (List.mem_cons_self ..), ih.1⟩, fun k' hk' => ?_⟩
    rcases List.mem_cons.1 hk' with rfl | hk'
    · exact h.1.1
    · exact fun hs => ih.2 k' hk' (List.mem_cons_of_mem _ hs)

theorem parseValue_arr (f n : Nat) (x : J) (xs : List J) (lvl : Nat) (T : Text) :
    parseValue (f+1) (91 :: 10 :: (aItems n (x :: xs) lvl ++ T)) = parseItems f (skipWs (aItems n (x :: xs) lvl ++ T)) [] := by
  obtain ⟨c, r, e, hc⟩ := aText_head n x lvl
  obtain ⟨R, hR⟩ : ∃ R, skipWs (aItems n (x :: xs) lvl ++ T) = c :: R := by
    simp only [aItems_cons, List.append_assoc, skipWs_ws_append _ _ (wsOnly_indentOf _), skipWs_aText]
    rw [e]; exact ⟨_, rfl⟩
  simp only [parseValue, skipWs_nl, hR, Nat.reduceEqDiff, if_false, if_true]
  split
  · rename_i heq; exact absurd (List.cons.inj heq).1 hc.2.2
  · rfl

mutual
  theorem parseValue_ok (n : Nat) : ∀ (d : J) (lvl fuel : Nat) (rest : Text), d.keysDistinct = true →
      d.stringsOk = true → sepOk rest → d.sz ≤ fuel → parseValue fuel (aText n d lvl ++ rest) = .ok d rest
    | .arr (x :: xs), lvl, fuel, rest, hd, hs, _, hsz => by
      obtain ⟨f, rfl⟩ := fuel_succ hsz
      rw [J.keysDistinct] at hd
      rw [J.stringsOk] at hs
      rw [J.sz] at hsz
      simp only [aText, List.append_assoc, List.cons_append, List.nil_append]
      rw [parseValue_arr]
      exact parseItems_ok n (x :: xs) (lvl + 1) f [] (indentOf lvl) rest (by simp) hd hs (wsOnly_indentOf _) (by omega)
    | .obj ((k, v) :: kvs), lvl, fuel, rest, hd, hs, _, hsz => by
      obtain ⟨f, rfl⟩ := fuel_succ hsz
      rw [J.keysDistinct] at hd
      rw [J.stringsOk] at hs
      rw [J.sz] at hsz
      have h := parseMembers_ok n ((k, v) :: kvs) (lvl + 1) f [] [] (indentOf lvl) rest (by simp) hd hs
        (wsOnly_indentOf _) (by omega)
      rw [objUpdate_fresh _ [] (membersDistinct_nodup _ _ hd).1] at h
      -- after `{` and the newline, the members are parsed from the quote of the first key on
      obtain ⟨R, hR⟩ : ∃ R, skipWs (aMembers n ((k, v) :: kvs) (lvl + 1) ++ 10 :: (indentOf lvl ++ 125 :: rest)) = 34 :: R := by
        simp only [aMembers_cons, List.append_assoc, skipWs_ws_append _ _ (wsOnly_indentOf _), skipWs_renderStr]
        exact ⟨_, rfl⟩
      simp only [aText, List.append_assoc, List.cons_append, List.nil_append, parseValue, skipWs_nl, hR,
        Nat.reduceEqDiff, if_false, if_true]
      rw [← hR]; exact h
    | .null, _, _, rest, _, _, _, hsz => by
      obtain ⟨f, rfl⟩ := fuel_succ hsz; simp [aText, parseValue, s_null]
    | .bool true, _, _, rest, _, _, _, hsz => by
      obtain ⟨f, rfl⟩ := fuel_succ hsz; simp [aText, parseValue, s_null, s_true]
    | .bool false, _, _, rest, _, _, _, hsz => by
      obtain ⟨f, rfl⟩ := fuel_succ hsz; simp [aText, parseValue, s_null, s_true, s_false]
    | .num k, _, _, rest, _, _, hr, hsz => by
      obtain ⟨f, rfl⟩ := fuel_succ hsz; exact parseValue_num f k rest hr
    | .str t, _, _, rest, _, hs, _, hsz => by
      obtain ⟨f, rfl⟩ := fuel_succ hsz
      simp only [aText, renderStr, List.cons_append, List.nil_append, List.append_assoc, parseValue, if_true]
      rw [scanString_renderStr t rest hs]
    | .arr [], _, _, rest, _, _, _, hsz => by
      obtain ⟨f, rfl⟩ := fuel_succ hsz; simp [aText, parseValue, s_arr, skipWs, isJsonWs]
    | .obj [], _, _, rest, _, _, _, hsz => by
      obtain ⟨f, rfl⟩ := fuel_succ hsz; simp [aText, parseValue, s_obj, skipWs, isJsonWs]
  theorem parseItems_ok (n : Nat) : ∀ (l : List J) (lvl fuel : Nat) (acc : List J) (ws rest : Text), l ≠ [] →
      allDistinct l = true → allStringsOk l = true → wsOnly ws → szItems l ≤ fuel →
      parseItems fuel (skipWs (aItems n l lvl ++ 10 :: (ws ++ 93 :: rest))) acc = .ok (.arr (acc ++ l)) rest
    | [], _, _, _, _, _, h, _, _, _, _ => absurd rfl h
    | x :: r, lvl, fuel, acc, ws, rest, _, hd, hs, hws, hsz => by
      rw [szItems] at hsz
      obtain ⟨g, rfl⟩ : ∃ g, fuel = g + 1 := ⟨fuel - 1, by omega⟩
      rw [allDistinct, Bool.and_eq_true] at hd
      rw [allStringsOk, Bool.and_eq_true] at hs
      rw [aItems_cons]
      simp only [List.append_assoc]
      rw [skipWs_ws_append _ _ (wsOnly_indentOf _), skipWs_aText]
      simp only [parseItems, parseValue_ok n x lvl g _ hd.1 hs.1 (sepOk_more r _ _) (by omega)]
      cases r with
      | nil => simp only [if_true, List.nil_append, skipWs_nl, skipWs_ws_append _ _ hws, skipWs_nonws 93 _ rfl]
      | cons y r =>
        simp only [reduceCtorEq, if_false, List.cons_append, skipWs_nonws 44 _ rfl, skipWs_nl]
        rw [parseItems_ok n (y :: r) lvl g (acc ++ [x]) ws rest (by simp) hd.2 hs.2 hws (by omega), List.append_assoc,
          List.singleton_append]
  theorem parseMembers_ok (n : Nat) : ∀ (l : List (Text × J)) (lvl fuel : Nat) (acc : List (Text × J))
      (seen : List Text) (ws rest : Text), l ≠ [] → membersDistinct l seen = true → membersStringsOk l = true →
      wsOnly ws → szMembers l ≤ fuel →
      parseMembers fuel (skipWs (aMembers n l lvl ++ 10 :: (ws ++ 125 :: rest))) acc = .ok (.obj (objUpdate acc l)) rest
    | [], _, _, _, _, _, _, h, _, _, _, _ => absurd rfl h
    | (k, v) :: r, lvl, fuel, acc, seen, ws, rest, _, hd, hs, hws, hsz => by
      rw [szMembers] at hsz
      obtain ⟨g, rfl⟩ : ∃ g, fuel = g + 1 := ⟨fuel - 1, by omega⟩
      rw [membersDistinct] at hd
      rw [membersStringsOk] at hs
      simp only [Bool.and_eq_true] at hd hs
      rw [aMembers_cons]
      simp only [List.append_assoc, List.cons_append, List.nil_append]
      rw [skipWs_ws_append _ _ (wsOnly_indentOf _)]
      simp only [renderStr, List.cons_append, List.nil_append, List.append_assoc, skipWs_nonws 34 _ rfl, parseMembers]
      rw [scanString_renderStr k _ hs.1.1]
      simp only [skipWs_nonws 58 _ rfl, skipWs_ws_append _ _ (wsOnly_alignGap _ _ _ _), skipWs_sp, skipWs_aText,
        parseValue_ok n v lvl g _ hd.1.2 hs.1.2 (sepOk_more r _ _) (by omega)]
      cases r with
      | nil =>
        simp only [if_true, List.nil_append, skipWs_nl, skipWs_ws_append _ _ hws, skipWs_nonws 125 _ rfl]
        rfl
      | cons kv r =>
        simp only [reduceCtorEq, if_false, List.cons_append, skipWs_nonws 44 _ rfl, skipWs_nl]
        exact parseMembers_ok n (kv :: r) lvl g (objSet acc k v) (k :: seen) ws rest (by simp) hd.2 hs.2 hws (by omega)
end

theorem parseValue_aText (n : Nat) (d : J) (lvl fuel : Nat) (rest : Text) (h : d.wf = true)
    (hr : sepOk rest) (hf : d.sz ≤ fuel) : parseValue fuel (aText n d lvl ++ rest) = .ok d rest := by
  rw [J.wf, Bool.and_eq_true] at h
  exact parseValue_ok n d lvl fuel rest h.1 h.2 hr hf

theorem loads_aText (n : Nat) (d : J) (h : d.wf = true) : loads (aText n d 0) = .ok d := by
  have h1 : skipWs (aText n d 0) = aText n d 0 ++ [] := by
    have := skipWs_aText n d 0 []
    rw [List.append_nil] at this ⊢
    exact this
  have h2 := sz_le_aText n d 0
  unfold loads
  rw [h1, parseValue_aText n d 0 _ [] h sepOk_nil (by omega)]
  rfl

theorem all_wf (l : List J) (h : ∀ d ∈ l, d.wf = true) : allDistinct l = true ∧ allStringsOk l = true := by
  induction l with
  | nil => exact ⟨rfl, rfl⟩
  | cons x r ih =>
    have hx := h x (List.mem_cons_self ..)
    rw [J.wf, Bool.and_eq_true] at hx
    have := ih (fun d hd => h d (List.mem_cons_of_mem _ hd))
    rw [allDistinct, allStringsOk, hx.1, hx.2, this.1, this.2]; exact ⟨rfl, rfl⟩

theorem joinWith_aText (n : Nat) : ∀ ds : List J, joinWith [44, 10] (ds.map (fun d => aText n d 0)) = aItems n ds 0
  | [] => rfl
  | x :: r => by
    rw [aItems_cons, ← joinWith_aText n r]
    cases r <;> simp [joinWith, indentOf, spaces]

theorem loads_listFraming (n : Nat) (ds : List J) (h : ∀ d ∈ ds, d.wf = true) :
    loads (listFraming (ds.map (fun d => aText n d 0))) = .ok (.arr ds) := by
  cases ds with
  | nil => simp [listFraming, loads, parseValue, skipWs, isJsonWs]
  | cons x xs =>
    have hsz := sz_le_aItems n (x :: xs) 0
    have hlf : listFraming ((x :: xs).map (fun d => aText n d 0))
        = 91 :: 10 :: (aItems n (x :: xs) 0 ++ 10 :: ([] ++ 93 :: [10])) := by
      have hj := joinWith_aText n (x :: xs)
      rw [List.map_cons] at hj
      simp only [List.map_cons, listFraming, hj, List.cons_append, List.nil_append]
    unfold loads
    rw [hlf, skipWs_nonws 91 _ rfl, parseValue_arr,
      parseItems_ok n (x :: xs) 0 _ [] [] [10] (by simp) (all_wf _ h).1 (all_wf _ h).2 wsOnly_nil (by
        simp only [List.length_append, List.length_cons, List.length_nil]; omega)]
    rfl

end Pel
