import PelProofs.Basic
/- Byte strings as records: big-endian values of whole byte strings, the field of a record at its offset,
   and induction along fixed-size pieces. -/
namespace Pel

/-! ### 16- and 32-bit values in the terms of the lemmas about `toBE` and `%0wX` -/

theorem fromBE_toBE2 (v : Nat) (h : v < 2 ^ 16) : fromBE (toBE 2 v) = v :=
  fromBE_toBE 2 v (by rw [show (256:Nat) ^ 2 = 2 ^ 16 by decide]; exact h)

theorem fromBE_toBE4 (v : Nat) (h : v < 2 ^ 32) : fromBE (toBE 4 v) = v :=
  fromBE_toBE 4 v (by rw [show (256:Nat) ^ 4 = 2 ^ 32 by decide]; exact h)

theorem fmtHex4_eq (v : Nat) (h : v < 2 ^ 16) : fmtHex 4 v = hexFix 4 v :=
  fmtHex_eq_hexFix 4 v (by rw [show (16:Nat) ^ 4 = 2 ^ 16 by decide]; exact h) (by omega)

theorem fmtHex8_eq (v : Nat) (h : v < 2 ^ 32) : fmtHex 8 v = hexFix 8 v :=
  fmtHex_eq_hexFix 8 v (by rw [show (16:Nat) ^ 8 = 2 ^ 32 by decide]; exact h) (by omega)

/-! ### the value of a byte string: its size, and that it encodes back -/

/-- along the reversed list a byte string grows at its low end, where `toBE` and `fromBE` take it apart -/
theorem fromBE_reverse (r : Bytes) (h : ∀ x ∈ r, x < 256) :
    fromBE r.reverse < 256 ^ r.length ∧ toBE r.length (fromBE r.reverse) = r.reverse := by
  induction r with
  | nil => exact ⟨by simp [fromBE], rfl⟩
  | cons a r ih =>
    obtain ⟨h1, h2⟩ := ih (fun x hx => h x (by simp [hx]))
    have ha : a < 256 := h a (by simp)
    have e1 : (fromBE r.reverse * 256 + a) / 256 = fromBE r.reverse := by omega
    have e2 : (fromBE r.reverse * 256 + a) % 256 = a := by omega
    simp only [List.length_cons, List.reverse_cons, toBE, fromBE_snoc, e1, e2, h2, Nat.pow_succ, and_true]
    omega

theorem fromBE_lt (bs : Bytes) (h : ∀ x ∈ bs, x < 256) : fromBE bs < 256 ^ bs.length := by
  simpa using (fromBE_reverse bs.reverse (by simpa using h)).1

theorem toBE_fromBE (bs : Bytes) (h : ∀ x ∈ bs, x < 256) : toBE bs.length (fromBE bs) = bs := by
  simpa using (fromBE_reverse bs.reverse (by simpa using h)).2

theorem toBE_getD (n v i : Nat) (hi : i < n) : (toBE n v).getD i 0 = v / 256 ^ (n - 1 - i) % 256 := by
  induction n generalizing v with
  | zero => omega
  | succ n ih =>
    rw [toBE, List.getD_eq_getElem?_getD]
    by_cases h : i < n
    · rw [List.getElem?_append_left (by simpa using h), ← List.getD_eq_getElem?_getD, ih _ h, Nat.div_div_eq_div_mul,
        ← Nat.pow_succ']
      congr 3; omega
    · obtain rfl : i = n := by omega
      rw [List.getElem?_append_right (by simp)]
      simp

theorem mem_take_drop_lt (b : Bytes) (hb : ∀ x ∈ b, x < 256) (n k : Nat) : ∀ x ∈ (b.drop n).take k, x < 256 :=
  fun x hx => hb x (List.mem_of_mem_drop (List.mem_of_mem_take hx))

theorem fromBE_slice (b : Bytes) (hb : ∀ x ∈ b, x < 256) (n k : Nat) (h : n + k ≤ b.length) :
    fromBE ((b.drop n).take k) < 256 ^ k ∧ toBE k (fromBE ((b.drop n).take k)) = (b.drop n).take k := by
  have hl : ((b.drop n).take k).length = k := by simp; omega
  have h1 := fromBE_lt _ (mem_take_drop_lt b hb n k)
  have h2 := toBE_fromBE _ (mem_take_drop_lt b hb n k)
  rw [hl] at h1 h2
  exact ⟨h1, h2⟩

/-! ### the field of a record at its offset -/

theorem slice_flatten_aux {α} : ∀ (fs : List (List α)) (rest : List α) (i : Nat) (hi : i < fs.length) (n k : Nat),
    ((fs.take i).map List.length).sum = n → fs[i].length = k → ((fs.flatten ++ rest).drop n).take k = fs[i]
  | f :: fs, rest, 0, _, n, k, hn, hk => by
    subst hn hk
    simp
  | f :: fs, rest, i + 1, hi, n, k, hn, hk => by
    subst hn
    simp only [List.take_succ_cons, List.map_cons, List.sum_cons, List.flatten_cons, List.append_assoc,
      List.getElem_cons_succ]
    rw [← List.drop_drop, List.drop_left]
    exact slice_flatten_aux fs rest i (by simpa using hi) _ k rfl hk

/-- In a record laid out as the fields `fs` one after the other, of lengths `ls`, field `i` stands at the sum of the
    lengths before it.  (The lengths are asked for once, as a list, so that each offset is a sum of numerals.) -/
theorem slice_flatten {α} (fs : List (List α)) (ls : List Nat) (hls : fs.map List.length = ls) (rest : List α) (i n k : Nat)
    {f : List α} (hf : fs[i]? = some f) (hn : (ls.take i).sum = n) (hk : ls[i]? = some k) :
    ((fs.flatten ++ rest).drop n).take k = f := by
  obtain ⟨hi, rfl⟩ := List.getElem?_eq_some_iff.1 hf
  subst hls
  refine slice_flatten_aux fs rest i hi n k (by rw [← List.map_take] at hn; exact hn) ?_
  simpa [hi] using hk

/-! ### induction along pieces of `l` bytes -/

theorem chunk_induction {l : Nat} (hl : 0 < l) {motive : Nat → Bytes → Prop} (nil : ∀ off, motive off [])
    (cons : ∀ off b, b ≠ [] → motive (off + l) (b.drop l) → motive off b) (off : Nat) (b : Bytes) : motive off b := by
  generalize hn : b.length = n
  induction n using Nat.strongRecOn generalizing b off with
  | _ n ih =>
    by_cases hb : b = []
    · subst hb; exact nil off
    · have hpos : 0 < b.length := List.length_pos_iff.mpr hb
      exact cons off b hb (ih (b.drop l).length (by simp; omega) _ _ rfl)

end Pel
