import PelModel.Select
import PelProofs.Basic
namespace Pel

theorem isHidden_eq (af : Nat) : isHidden af = specHidden af := rfl

theorem isServiceable_eq (sev af : Nat) : isServiceable sev af = specServiceable sev af := by
  unfold isServiceable specServiceable infoSeverity reportFlag serviceActionFlag
  rw [isHidden_eq]
  cases sev != 0 <;> cases af &&& 0x2000 != 0 <;> cases specHidden af <;> cases af &&& 0x8000 != 0 <;> rfl

theorem sevMatches_any (sev : Nat) (l : List Nat) : sevMatches sev l = l.any (fun g => sev >>> 4 == g) := by
  induction l with
  | nil => rfl
  | cons x xs ih => simp only [sevMatches, List.any_cons, ih]; cases (sev >>> 4 == x) <;> rfl

theorem sevMatches_eq (sev : Nat) (gs : List Nat) : sevMatches sev gs = gs.contains (sev / 16) := by
  rw [sevMatches_any, Nat.shiftRight_eq_div_pow, List.contains_eq_any_beq]

end Pel
