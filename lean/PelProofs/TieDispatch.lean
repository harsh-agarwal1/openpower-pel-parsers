import PelModel.TransDispatch
import PelProofs.FramesDefs
/-
  Helper lemmas and proof scripts of the source tie of stream `dispatch` (harness/trans_dispatch.py → PelGen/GenDispatch.lean):
  PelProps/TieC01.lean (sectionFun, the generate* wrappers, the section loop of parsePEL) and PelProps/TieC18.lean (m2c00 routing,
  osrc look-up, module names, getMaintProcDesc).

  The tie theorems say `generated definition = model function`.  The scripts first try `rfl`; the fall-backs split every `if` /
  `match` of the generated side, let `simp_all` decide the conditions of the model side from the hypotheses of the case, and
  compare what is left (functor / monad laws, string literals evaluated to code points).  That shape is what lets the proofs survive
  HARMLESS rewrites of the Python text: branches with disjoint tests in another order, a test written the other way round, a message
  split differently into literals.
-/
namespace Pel.TieAux

theorem lower_o : (s "o").map toLowerAscii = s "o" := by rw [s_ofList]; rfl

theorem modPath_injective (pkg a b : Text) (h : modPath pkg a = modPath pkg b) : a = b := by
  unfold modPath at h
  simp only [List.append_assoc, List.append_cancel_left_eq] at h
  have hl : a.length = b.length := by
    have := congrArg List.length h
    simp only [List.length_append, List.length_cons, List.length_nil] at this
    omega
  exact (List.append_inj h hl).1

/-- the model's `sectionFun` in the words of the Python text: one `if` per section id, the decoder, the member stored under the name.
    The numbers are `sidPS`, `sidSS`, `sidEH`, `sidMT`, `sidED`, `sidUD`, `sidLP` ("PS" = 0x5053 = 20563, …), as the translator writes them. -/
theorem namedBy_decodeSection (env : Env) (creator : Text) (h : SecHdr) :
    namedBy env.T h (Prod.fst <$> decodeSection env creator h) =
      if h.id = 20563 ∨ h.id = 21331 then decodeSRC env.T env.src h creator env.allowPlugins >>= fun r => pure (sectionName env.T h.id, r.1)
      else if h.id = 17736 then decodeEH env.T h creator >>= fun j => pure (sectionName env.T h.id, j)
      else if h.id = 19796 then decodeMT env.T h creator >>= fun j => pure (sectionName env.T h.id, j)
      else if h.id = 17732 then decodeED env.T env.ud env.allowPlugins h >>= fun j => pure (sectionName env.T h.id, j)
      else if h.id = 21828 then decodeUD env.T env.ud env.allowPlugins h creator >>= fun j => pure (sectionName env.T h.id, j)
      else if h.id = 19536 then decodeLP env.T h creator >>= fun j => pure (sectionName env.T h.id, j)
      else decodeDefault h >>= fun j => pure (sectionName env.T h.id, j) := by
  unfold decodeSection
  -- `namedBy` and the projection go into the branches first; unfolding them earlier would leave the `if` under a bind
  simp only [apply_ite (Functor.map Prod.fst), apply_ite (namedBy env.T h)]
  simp only [namedBy, sidPS, sidSS, sidEH, sidMT, sidED, sidUD, sidLP, map_eq_pure_bind, bind_assoc, pure_bind]

/-- one iteration of the section loop: header, `sectionFun`, the member stored under the section's name -/
theorem decodeOne_eq (env : Env) (creator : Text) :
    decodeOne env creator = parseHeader >>= fun h => namedBy env.T h (Prod.fst <$> decodeSection env creator h) := by
  unfold decodeOne namedBy
  simp only [map_eq_pure_bind, bind_assoc, pure_bind]

theorem decodeSections_eq_collect (env : Env) (creator : Text) (n : Nat) :
    decodeSections env creator n = Rd.collect (decodeOne env creator) n := by
  induction n with
  | zero => rfl
  | succ n ih =>
    simp only [decodeSections, Rd.collect, decodeOne, ih, bind_assoc, pure_bind]

end Pel.TieAux

open Pel in
/-- case analysis on the generated side, the model side decided from the hypotheses of each case -/
macro "tie_split" : tactic => `(tactic|
  (repeat' split
   all_goals first
     | with_reducible rfl
     | (simp_all [bind_assoc, map_pure, pure_bind, bind_pure_comp, Functor.map_map, Option.map]; done)
     | (simp_all [bind_assoc, map_pure, pure_bind, bind_pure_comp, Functor.map_map, Option.map, s]; done)))

/-- close `generated = model` after both sides are unfolded; the second attempt first brings `a = b` / `a == b` / `∨` / `∧` into one
    orientation on both sides (a test written the other way round) -/
macro "tie_cases" : tactic => `(tactic| first
  | tie_split
  | (simp only [or_comm, and_comm, eq_comm, BEq.comm]; tie_split))
