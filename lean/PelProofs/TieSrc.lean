import PelModel.TransSrc
import PelProofs.TieSections
import PelProofs.FramesSrc
/-
  Helper lemmas and proof scripts of the source tie of the SRC section (PelProps/TieC03.lean).
  `harness/trans_src.py` renders the loops of src.py with the combinators of PelModel/TransSrc.lean (`rdRepeat`, `rdWhile`,
  `forRangeRd`, `padTo`); the lemmas here relate each combinator, instantiated with the loop body the source has, to the
  recursive function of PelModel/Src.lean that the model uses for that loop.  The loop bodies are HYPOTHESES of the lemmas
  (`hB : ∀ st, B st = <canonical body>`), discharged in the tie by comparing the generated body with the canonical one.
-/
namespace Pel.TieSrc

theorem peek2_eq : peek2 = peekInt 2 := rfl

/-! ### `for _ in range(n): mrus.append(MRUCallout(get_int(4), get_int(4)))` -/

theorem rdRepeat_mru (r : Rd (Nat × Nat)) (hr : r = (getInt 4 >>= fun p => getInt 4 >>= fun i => pure (p, i))) :
    ∀ n, rdRepeat r n = readMruItems n := by
  subst hr
  intro n
  induction n with
  | zero => rfl
  | succ n ih =>
    unfold rdRepeat readMruItems
    simp only [bind_assoc, pure_bind, ih]

/-! ### the substructure walk of `Callout.__init__` -/

abbrev SubsSt := Option Fru × Option Pce × Option Mru × Nat

/-- the body of `while self.size > currentSize` as the translator renders it (state: fruIdentity, pceIdentity, mru, currentSize) -/
def subsBody (st : SubsSt) : Rd (SubsSt × Bool) :=
  peekInt 2 >>= fun ty =>
    if ty = 0x4944 then readFru >>= fun x => pure ((some x, st.2.1, st.2.2.1, st.2.2.2 + x.flatSize), true)
    else if ty = 0x5045 then readPce >>= fun x => pure ((st.1, some x, st.2.2.1, st.2.2.2 + x.declaredSize), true)
    else if ty = 0x4D52 then readMru >>= fun x => pure ((st.1, st.2.1, some x, st.2.2.2 + x.declaredSize), true)
    else pure ((st.1, st.2.1, st.2.2.1, st.2.2.2), false)

/-- the loop followed by its continuation = the model's `readSubs` followed by the same continuation (the final
    `currentSize` is dead) -/
theorem subs_bind {β : Type} (size : Nat) (B : SubsSt → Rd (SubsSt × Bool)) (hB : ∀ st, B st = subsBody st)
    (k : SubsSt → Rd β) (k' : Option Fru × Option Pce × Option Mru → Rd β) (hk : ∀ st, k st = k' (st.1, st.2.1, st.2.2.1)) :
    ∀ (fuel : Nat) (f : Option Fru) (p : Option Pce) (m : Option Mru) (cur : Nat),
      rdWhile (fun st : SubsSt => size > st.2.2.2) B fuel (f, p, m, cur) >>= k = readSubs fuel size cur f p m >>= k' := by
  obtain rfl : B = subsBody := funext hB
  intro fuel
  induction fuel with
  | zero => intro f p m cur; unfold rdWhile readSubs; simp only [pure_bind, hk]
  | succ n ih =>
    intro f p m cur
    unfold rdWhile readSubs
    by_cases hc : size > cur
    · simp only [hc, if_true, subsBody, peek2_eq, bind_assoc]
      refine bind_congr fun t => ?_
      -- the three substructure types: read one, go on by induction
      iterate 3
        split
        · simp only [bind_assoc, pure_bind, if_true]
          exact bind_congr fun x => ih _ _ _ _
      simp only [pure_bind, Bool.false_eq_true, if_false, hk]
    · simp only [hc, if_false, pure_bind, hk]

/-! ### the callout walk of `SRC.getCallouts` -/

abbrev CoSt := Nat × List Callout

/-- the body of `while subsectionWordLength * 4 > currentLength` (state: currentLength, callouts) -/
def calloutsBody (st : CoSt) : Rd (CoSt × Bool) :=
  readCallout >>= fun c => pure ((st.1 + Callout.flattenedSize c, st.2 ++ [c]), true)

theorem rdWhile_callouts {β : Type} (total : Nat) (k : CoSt → Rd β) (k' : List Callout → Rd β) (hk : ∀ c r, k (c, r) = k' r) :
    ∀ (fuel cur : Nat) (acc : List Callout),
      rdWhile (fun st : CoSt => total > st.1) calloutsBody fuel (cur, acc) >>= k
        = readCallouts fuel total cur >>= fun r => k' (acc ++ r) := by
  intro fuel
  induction fuel with
  | zero => intro cur acc; unfold rdWhile readCallouts; simp only [pure_bind, hk, List.append_nil]
  | succ n ih =>
    intro cur acc
    unfold rdWhile readCallouts
    by_cases hc : total > cur
    · simp only [hc, if_true, calloutsBody, bind_assoc, pure_bind]
      refine bind_congr fun c => ?_
      rw [ih]
      refine bind_congr fun r => ?_
      simp only [List.append_assoc, List.singleton_append]
    · simp only [hc, if_false, pure_bind, hk, List.append_nil]

theorem callouts_bind {β : Type} (total fuel cur : Nat) (B : CoSt → Rd (CoSt × Bool)) (hB : ∀ st, B st = calloutsBody st)
    (k : CoSt → Rd β) (k' : List Callout → Rd β) (hk : ∀ c r, k (c, r) = k' r) :
    rdWhile (fun st : CoSt => total > st.1) B fuel (cur, ([] : List Callout)) >>= k = readCallouts fuel total cur >>= k' := by
  have e : B = calloutsBody := funext hB
  subst e
  rw [rdWhile_callouts total k k' hk]
  rfl

/-! ### reads whose result has a known length -/

theorem getInts_length (w : Nat) : ∀ (n : Nat) (st st' : Bytes) (xs : List Nat), getInts w n st = .ok (xs, st') → xs.length = n := by
  intro n
  induction n with
  | zero => intro st st' xs h; cases h; rfl
  | succ n ih =>
    intro st st' xs h
    unfold getInts at h
    obtain ⟨x, st1, -, h⟩ := bind_ok_inv h
    obtain ⟨r, st2, h2, h⟩ := bind_ok_inv h
    cases h
    exact congrArg (· + 1) (ih _ _ _ h2)

theorem getInts_bind_congr {β : Type} (w n : Nat) (f g : List Nat → Rd β) (h : ∀ xs, xs.length = n → f xs = g xs) :
    getInts w n >>= f = getInts w n >>= g := by
  funext st
  cases hx : getInts w n st with
  | error e => rw [bind_err _ _ _ _ hx, bind_err _ _ _ _ hx]
  | ok a => rw [bind_ok _ _ _ _ _ hx, bind_ok _ _ _ _ _ hx, h _ (getInts_length w n st a.2 a.1 hx)]

/-! ### failing pure steps -/

theorem rdOfOption_bind {α β : Type} (o : Option α) (k : α → Rd β) :
    rdOfOption o >>= k = (match o with | none => Rd.fail .other | some x => k x) := by
  cases o <;> rfl

/-! ### the per-callout dictionary -/

theorem foldl_join_aux {α : Type} (f : α → Text) (c : Nat) : ∀ (xs : List α) (x : α) (acc : Text),
    (x :: xs).foldl (fun a y => a ++ (f y ++ [c])) acc = acc ++ joinWith [c] ((x :: xs).map f) ++ [c] := by
  intro xs
  induction xs with
  | nil => intro x acc; simp [joinWith]
  | cons y r ih =>
    intro x acc
    rw [List.foldl_cons, ih]
    simp [joinWith, List.append_assoc]

theorem foldl_join {α : Type} (f : α → Text) (sep : Text) (c : Nat) (hs : sep = [c]) (l : List α) :
    (l.foldl (fun a x => a ++ (f x ++ sep)) []).dropLast = joinWith [c] (l.map f) := by
  subst hs
  cases l with
  | nil => rfl
  | cons x xs => rw [foldl_join_aux, List.dropLast_concat]; simp

theorem procDesc_if (env : SrcEnv) (creator : Text) (allow : Bool) (p : Text) :
    (if allow = true then procDescCall env creator p else []) = procDescription env creator allow p := by
  cases allow <;> rfl

/-! ### `SRC.toJSON` -/

theorem errorDetails_call (reg : List RegEntry) (ascii : Text) (words : List Nat) :
    errorDetails reg ascii words = errDetailsCall reg ((ascii.drop 4).take 4) (ascii.take 2) words := rfl

theorem fail_bind {α β : Type} (e : Err) (k : α → Rd β) : (Rd.fail e : Rd α) >>= k = Rd.fail e := rfl

abbrev HexSt := List (Text × J) × List Text

/-- the body of `for i in range(2, self.wordCount + 1)` as the translator renders it (state: members added to `out`, hexwords) -/
def hexBody (words : List Nat) (i : Nat) (st : HexSt) : Rd HexSt :=
  rdIndex words (if i ≥ 2 ∧ i ≤ 9 then i - 2 else i) >>= fun x =>
    pure (st.1 ++ [(s "Hex Word " ++ natDec i, jstr (fmtHex 8 x))], st.2 ++ [fmtHex 8 x])

theorem hexBody_ok (words : List Nat) (hw : words.length = 8) (i : Nat) (h : 2 ≤ i ∧ i ≤ 9) (st : HexSt) :
    hexBody words i st = pure (st.1 ++ [((hexWord words i).1, jstr (hexWord words i).2)], st.2 ++ [(hexWord words i).2]) := by
  unfold hexBody rdIndex hexWord
  have hi : i - 2 < words.length := by omega
  simp only [ge_iff_le, h, and_self, if_true, List.getElem?_eq_getElem hi, List.getD_eq_getElem?_getD, Option.getD_some]
  rfl

theorem hexBody_fail (words : List Nat) (hw : words.length = 8) (i : Nat) (h : 10 ≤ i) (st : HexSt) :
    hexBody words i st = Rd.fail .other := by
  unfold hexBody rdIndex
  have : words[i]? = none := List.getElem?_eq_none (by omega)
  simp only [ge_iff_le, show ¬ i ≤ 9 by omega, and_false, if_false, this]
  rfl

theorem hex_foldl (words : List Nat) (hw : words.length = 8) : ∀ (l : List Nat) (_ : ∀ i ∈ l, 2 ≤ i ∧ i ≤ 9) (st : HexSt),
    l.foldlM (fun st i => hexBody words i st) st
      = pure (st.1 ++ (l.map (hexWord words)).map (fun p => (p.1, jstr p.2)), st.2 ++ (l.map (hexWord words)).map (·.2)) := by
  intro l
  induction l with
  | nil => intro _ st; simp only [List.foldlM_nil, List.map_nil, List.append_nil]
  | cons i r ih =>
    intro hl st
    rw [List.foldlM_cons, hexBody_ok words hw i (hl i (List.mem_cons_self)), pure_bind,
      ih (fun j hj => hl j (List.mem_cons_of_mem _ hj))]
    simp only [List.map_cons, List.append_assoc, List.singleton_append]

theorem idxs_large (wc : Nat) (h : wc ≥ 10) :
    (List.range (wc + 1)).drop 2 = [2, 3, 4, 5, 6, 7, 8, 9] ++ 10 :: List.range' 11 (wc - 10) := by
  rw [List.range_eq_range', List.drop_range']
  have e : wc + 1 - 2 = 8 + (1 + (wc - 10)) := by omega
  rw [e, ← List.range'_append, ← List.range'_append]
  rfl

/-- the hex-word loop (with the body as it stands in the generated term, `hexBody`) = the model's `wordCount ≥ 10` test and its two maps -/
theorem hex_loop (words : List Nat) (hw : words.length = 8) (wc : Nat) :
    forRangeRd 2 (wc + 1) (fun i (st : HexSt) => rdIndex words (if i ≥ 2 ∧ i ≤ 9 then i - 2 else i) >>= fun x =>
        pure (st.1 ++ [(s "Hex Word " ++ natDec i, jstr (fmtHex 8 x))], st.2 ++ [fmtHex 8 x])) (([] : List (Text × J)), ([] : List Text)) =
      if wc ≥ 10 then Rd.fail .other
      else pure ((srcHexw wc words).map (fun p => (p.1, jstr p.2)), (srcHexw wc words).map (·.2)) := by
  show ((List.range (wc + 1)).drop 2).foldlM (fun st i => hexBody words i st) _ = _
  split
  · rename_i h
    rw [idxs_large wc h, List.foldlM_append, hex_foldl words hw _ (by decide), pure_bind, List.foldlM_cons, hexBody_fail words hw 10 (Nat.le_refl 10), fail_bind]
  · rename_i h
    rw [hex_foldl words hw _ fun i hi => by have := (mem_drop_range i _ 2).1 hi; omega]
    rfl

theorem boolStr_ne (x : Nat) : boolStr (x != 0) = jstr (if x ≠ 0 then s "True" else s "False") := by
  unfold boolStr
  by_cases h : x = 0 <;> simp [h]

theorem padTo_hex (l : List (Text × Text)) :
    padTo 8 (s "00000000") (l.map (·.2)) = l.map (·.2) ++ List.replicate (8 - l.length) (s "00000000") := by
  unfold padTo; rw [List.length_map]

/-- the parser plug-in step at the end of `toJSON`, over any member list built so far -/
theorem finish_eq (env : SrcEnv) (creator : Text) (allow : Bool) (ascii : Text) (hexwords : List Text) (M : List (Text × J)) :
    ((if (allow = true) then ((srcDetails env creator ascii hexwords).rd (s "SRC Details")) else pure []) >>= fun v24 =>
      (pure (J.obj (M ++ v24), stripSp ascii) : Rd (J × Text))) = srcFinish env creator allow ascii hexwords M := by
  unfold srcFinish
  cases allow
  · simp only [Bool.false_eq_true, if_false, pure_bind, List.append_nil]
  · simp only [if_true]
    cases srcDetails env creator ascii hexwords <;> simp only [SrcDetails.rd, pure_bind, List.append_nil] <;> rfl

/-- the end of `toJSON` (callout subsection, parser plug-in) over any member list built so far -/
theorem tail_eq (T : Tables) (env : SrcEnv) (creator : Text) (allow : Bool) (flags : Nat) (ascii : Text) (hexwords : List Text)
    (M : List (Text × J)) :
    ((if (flags &&& 1) ≠ 0 then (decodeCallouts T env creator allow >>= fun c => pure [kv "Callout Section" c]) else pure []) >>= fun v22 =>
      (if (allow = true) then ((srcDetails env creator ascii hexwords).rd (s "SRC Details")) else pure []) >>= fun v24 =>
      (pure (J.obj (M ++ v22 ++ v24), stripSp ascii) : Rd (J × Text)))
    = ((if flags &&& 0x01 ≠ 0 then (decodeCallouts T env creator allow >>= fun c => pure (M ++ [kv "Callout Section" c])) else pure M) >>=
        srcFinish env creator allow ascii hexwords) := by
  simp only [finish_eq]
  by_cases hf : flags &&& 1 ≠ 0
  · simp only [if_pos hf, bind_assoc, pure_bind]
  · simp only [if_neg hf, pure_bind, List.append_nil]

/-- the registry step as the source has it (the two status members, then what `getErrorDetails` adds, or its exception) against the
    model's: the outcome first, the members afterwards -/
theorem edStep (B : Prop) [Decidable B] (E : ErrDet) (dg : List (Text × J)) {β : Type} (k : List (Text × J) → Rd β) :
    (if B then (E.rd (s "Error Details") >>= fun v => pure (dg ++ v)) else pure []) >>= k =
      match (if B then E else ErrDet.none) with
      | .fail => Rd.fail .other
      | .unsupported => Rd.fail .unsupported
      | e => k (if B then dg ++ e.members else []) := by
  by_cases hB : B
  · simp only [if_pos hB]; cases E <;> rfl
  · simp only [if_neg hB]; rfl

/-- What the translator makes of `SRC.toJSON` after the eight header reads (hexData has eight words) is the model's `srcTail`.
    The left-hand side IS the generated `do` block from there on, copied from PelGen/GenSrc.lean with its numbered binders, and
    `Tie.decodeSRC` closes with this lemma: the one tie that rests on the SHAPE of the generated term.  What keeps it standing is
    the translator, which numbers binders by position and has one rendering for the spellings of a format, a slice bound or a
    test against zero, so that renamings, reorderings of independent statements and those respellings regenerate this very block
    (the rewrites tried are listed in docs/translators/T4.md).  A harmless rewrite that changes the block in any other way
    breaks the tie: a false alarm, never a missed change, since what is proved stays `g = decodeSRC`. -/
theorem srcTail_shape (T : Tables) (env : SrcEnv) (h : SecHdr) (creator : Text) (allow : Bool) (v1 : Bytes) (v2 v4 : Nat)
    (v7 : List Nat) (v9 : Text) (hw : v7.length = 8) :
    (do
      let v11 ← (if ((v9.take 2) = (s "BD") ∨ (v9.take 2) = (s "11")) ∨ ((v9.take 2) = (s "BC")) then (do let v10 ← (errDetailsCall env.registry ((v9.drop 4).take 4) (v9.take 2) v7).rd (s "Error Details"); pure ([kv "Deconfigured" (jstr (if ((v7.getD 3 0) &&& 33554432) ≠ 0 then (s "True") else (s "False"))),
          kv "Guarded" (jstr (if ((v7.getD 3 0) &&& 16777216) ≠ 0 then (s "True") else (s "False")))] ++
        v10)) else pure [])
      let v18 ← forRangeRd 2 (v4 + 1) (fun i13 st14 => (do let v16 ← rdIndex v7 (if i13 ≥ 2 ∧ i13 ≤ 9 then (i13 - 2) else i13); pure ((st14.1 ++ [(((s "Hex Word ") ++ (natDec i13)), (jstr (fmtHex 8 v16)))]), (st14.2 ++ [(fmtHex 8 v16)])))) ([], ([] : List Text))
      let v22 ← (if (v2 &&& 1) ≠ 0 then (do let v21 ← decodeCallouts T env creator allow; pure [kv "Callout Section" v21]) else pure [])
      let v24 ← (if (allow = true) then ((srcDetails env creator v9 (padTo 8 (s "00000000") v18.2)).rd (s "SRC Details")) else pure [])
      pure ((J.obj ([kv "Section Version" (jnum h.ver),
          kv "Sub-section type" (jnum h.sub),
          kv "Created by" (jstr (displayCompID T h.comp creator)),
          kv "SRC Version" (jstr ((s "0x") ++ (bytesHexL v1))),
          kv "SRC Format" (jstr ((s "0x") ++ (fmtHex 2 ((v7.getD 0 0) &&& 255)))),
          kv "Virtual Progress SRC" (jstr (if (v2 &&& 128) ≠ 0 then (s "True") else (s "False"))),
          kv "I5/OS Service Event Bit" (jstr (if (v2 &&& 16) ≠ 0 then (s "True") else (s "False"))),
          kv "Hypervisor Dump Initiated" (jstr (if (v2 &&& 4) ≠ 0 then (s "True") else (s "False")))] ++
        (if ((v9.take 2) = (s "BD") ∨ (v9.take 2) = (s "11")) then [kv "Backplane CCIN" (jstr (fmtHex 4 ((v7.getD 1 0) >>> 16))),
          kv "Terminate FW Error" (jstr (if ((v7.getD 3 0) &&& 536870912) ≠ 0 then (s "True") else (s "False")))] else []) ++
        v11 ++
        [kv "Valid Word Count" (jstr ((s "0x") ++ (fmtHex 2 v4))),
          kv "Reference Code" (jstr (stripSp v9))] ++
        v18.1 ++
        v22 ++
        v24)),
        (stripSp v9))) = srcTail T env h creator allow v1 v2 v4 v7 v9 := by
  rw [hex_loop v7 hw v4, edStep]
  unfold srcTail srcAfterEd srcMembers srcHexwords srcEd
  simp only [errorDetails_call, boolStr_ne, ox]
  generalize (if ((v9.take 2) = (s "BD") ∨ (v9.take 2) = (s "11")) ∨ ((v9.take 2) = (s "BC")) then
    errDetailsCall env.registry ((v9.drop 4).take 4) (v9.take 2) v7 else ErrDet.none) = ed
  -- both sides now branch on the registry outcome `ed` first; an exception there ends both
  cases ed <;> try rfl
  all_goals
    by_cases hwc : v4 ≥ 10
    · simp only [hwc, if_true, fail_bind]
    · simp only [hwc, if_false, pure_bind, padTo_hex]
      exact tail_eq T env creator allow v2 v9 _ _

/-- a conditional step followed by its continuation, against the form the `do` notation gives `let x ← if c then … else …; k x`
    (the continuation inside the branches): compare branch by branch; the two tests need only be equivalent -/
theorem ite_bind_eq_ite {m : Type → Type} [Monad m] {β γ : Type} {c c' : Prop} [Decidable c] [Decidable c'] {a b : m β} {k : β → m γ}
    {x y : m γ} (hc : c ↔ c') (h1 : a >>= k = x) (h2 : b >>= k = y) : (if c then a else b) >>= k = if c' then x else y :=
  (TieAux.ite_bind_distrib c a b k).trans (ite_congr (propext hc) (fun _ => h1) (fun _ => h2))

end Pel.TieSrc

/-- `rd_auto`: the goal `p = q` for two reader programs: equal heads are stepped over (`bind_congr`), a conditional step is compared
    branch by branch (`ite_bind_eq_ite`: the model's `do` blocks have the continuation inside the branches already), loops are
    replaced by the model's recursive functions (lemmas above), leaves are compared by `rfl` -/
macro "rd_auto" : tactic => `(tactic|
  repeat' (first
    | with_reducible rfl
    | (refine bind_congr fun _ => ?_)
    | (refine Pel.TieSrc.ite_bind_eq_ite (by first | exact Iff.rfl | omega) ?_ ?_ <;> simp only [bind_assoc, pure_bind])
    | (refine congrArg pure ?_; rfl)
    | contradiction
    | omega
    | (refine Pel.TieSrc.subs_bind _ _ (fun _ => ?_) _ _ (fun _ => ?_) _ _ _ _ _)
    | (refine Pel.TieSrc.callouts_bind _ _ _ _ (fun _ => ?_) _ _ (fun _ _ => ?_))
    | (rw [Pel.TieSrc.rdRepeat_mru _ (by first | rfl | (simp only [bind_assoc, pure_bind]; rfl))])
    | (rw [Pel.TieSrc.rdOfOption_bind]; dsimp only; split <;> simp only [*])
    | split
    | rfl))

/-- `tie_src f`: the goal `generated = f …` for a reader `f` of PelModel/Src.lean.  Second attempt: `getText` unfolded (a decode
    split into two statements) and `a &&& b` / `a ||| b` / `a + b` ordered. -/
macro "tie_src " f:ident : tactic => `(tactic| first
  | (unfold $f; (try simp only [bind_assoc, pure_bind]); rd_auto; done)
  | (unfold $f; (try simp only [Pel.getText, Pel.stripNul, bind_assoc, pure_bind, Nat.and_comm, Nat.or_comm, Nat.add_comm]); rd_auto; done))
