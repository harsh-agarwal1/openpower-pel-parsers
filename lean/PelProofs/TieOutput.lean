import PelModel.TransOutput
import PelProofs.Numbering
import PelProofs.JsonAlign
/-
  Lemmas for the source tie of `buildOutput`, `keyEndIndex` and `prettyPrint` (stream `output`, PelProps/TieC01.lean, TieC06.lean):
  loop rules (invariant + variant) for the combinators of PelModel/TransOutput.lean, and the model functions restated in the
  index vocabulary of the Python text.  Nothing here mentions a generated definition.
-/
namespace Pel

theorem opt_bind_ite {α β : Type} (c : Prop) [Decidable c] (a b : Option α) (f : α → Option β) :
    (if c then a else b).bind f = if c then a.bind f else b.bind f :=
  apply_ite (·.bind f) c a b

/-! ### the `while` rule -/

/-- what one pass through the body must establish: `Inv` again with a smaller variant and the same answer, or the answer itself -/
def LoopStep.ok {σ ρ : Type} (Inv : σ → Prop) (μ : σ → Nat) (R : σ → Option ρ) (st : σ) : Option (LoopStep σ ρ) → Prop
  | some (.next st') => Inv st' ∧ μ st' < μ st ∧ R st' = R st
  | some (.ret v) => R st = some v
  | none => False

@[simp] theorem LoopStep.ok_next {σ ρ : Type} (Inv : σ → Prop) (μ : σ → Nat) (R : σ → Option ρ) (st st' : σ) :
    LoopStep.ok Inv μ R st (some (.next st')) ↔ (Inv st' ∧ μ st' < μ st ∧ R st' = R st) := Iff.rfl
@[simp] theorem LoopStep.ok_ret {σ ρ : Type} (Inv : σ → Prop) (μ : σ → Nat) (R : σ → Option ρ) (st : σ) (v : ρ) :
    LoopStep.ok Inv μ R st (some (.ret v)) ↔ R st = some v := Iff.rfl
@[simp] theorem LoopStep.ok_none {σ ρ : Type} (Inv : σ → Prop) (μ : σ → Nat) (R : σ → Option ρ) (st : σ) :
    LoopStep.ok Inv μ R st none ↔ False := Iff.rfl
theorem LoopStep.ok_ite {σ ρ : Type} (Inv : σ → Prop) (μ : σ → Nat) (R : σ → Option ρ) (st : σ) (c : Prop) [Decidable c]
    (a b : Option (LoopStep σ ρ)) :
    LoopStep.ok Inv μ R st (if c then a else b) ↔ (if c then LoopStep.ok Inv μ R st a else LoopStep.ok Inv μ R st b) := by
  split <;> rfl

/-- `while` rule: under the invariant, either the condition is false and the rest of the function gives the answer `R`, or it is
    true and one pass through the body is `ok`.  Then the fuelled loop equals `R` whenever the fuel exceeds the variant. -/
theorem pyWhile_rule {σ ρ : Type} {cond : σ → Option Bool} {body : σ → Option (LoopStep σ ρ)} {k : σ → Option ρ}
    (Inv : σ → Prop) (μ : σ → Nat) (R : σ → Option ρ)
    (hstep : ∀ st, Inv st →
      (cond st = some false ∧ k st = R st) ∨ (cond st = some true ∧ LoopStep.ok Inv μ R st (body st))) :
    ∀ fuel st, Inv st → μ st < fuel → pyWhile cond body k fuel st = R st := by
  intro fuel
  induction fuel with
  | zero => intro st _ h; omega
  | succ f ih =>
    intro st hi hf
    rcases hstep st hi with ⟨hc, hk⟩ | ⟨hc, hb⟩
    · simp [pyWhile, hc, hk]
    · cases hbs : body st with
      | none => simp [hbs, LoopStep.ok] at hb
      | some r =>
        cases r with
        | next st' =>
          simp only [hbs, LoopStep.ok_next] at hb
          simp only [pyWhile, hc, hbs, Option.bind_eq_bind, Option.bind_some, if_true]
          rw [← hb.2.2]; exact ih st' hb.1 (by omega)
        | ret v =>
          simp only [hbs, LoopStep.ok_ret] at hb
          simp [pyWhile, hc, hbs, hb]

/-! ### the `for` rule -/

/-- the computation does not raise and its value satisfies `P` -/
def OptSat {α : Type} (P : α → Prop) : Option α → Prop
  | some x => P x
  | none => False

@[simp] theorem OptSat_some {α : Type} (P : α → Prop) (x : α) : OptSat P (some x) ↔ P x := Iff.rfl
@[simp] theorem OptSat_none {α : Type} (P : α → Prop) : OptSat P none ↔ False := Iff.rfl
theorem OptSat_ite {α : Type} (P : α → Prop) (c : Prop) [Decidable c] (a b : Option α) :
    OptSat P (if c then a else b) ↔ (if c then OptSat P a else OptSat P b) := by
  split <;> rfl
theorem OptSat_elim {α : Type} {P : α → Prop} {o : Option α} (h : OptSat P o) : ∃ x, o = some x ∧ P x := by
  cases o with
  | none => exact h.elim
  | some x => exact ⟨x, rfl, h⟩
theorem bind_eq_of_sat {α β : Type} {P : α → Prop} {o : Option α} {k : α → Option β} {r : Option β}
    (h : OptSat P o) (hk : ∀ x, P x → k x = r) : (o >>= k) = r := by
  obtain ⟨x, rfl, hx⟩ := OptSat_elim h
  exact hk x hx

/-- `for i in range(len(l))` whose body works on item `i` (Hoare style): the invariant speaks of the items done and the items still
    to come; every pass moves one item across without raising -/
theorem pyFor_len_rule {α σ : Type} {body : Int → σ → Option σ} (l : List α) (Inv : List α → List α → σ → Prop)
    (hstep : ∀ pre x post st, l = pre ++ x :: post → Inv pre (x :: post) st →
      OptSat (Inv (pre ++ [x]) post) (body (pre.length : Int) st)) :
    ∀ st, Inv [] l st → OptSat (Inv l []) (pyFor (pyRange (l.length : Int)) body st) := by
  have key : ∀ post pre st, l = pre ++ post → Inv pre post st →
      OptSat (Inv l []) (((List.range' pre.length post.length).map Int.ofNat).foldlM (fun st x => body x st) st) := by
    intro post
    induction post with
    | nil => intro pre st hl h; simpa [hl] using h
    | cons x post ih =>
      intro pre st hl h
      obtain ⟨st1, h1, i1⟩ := OptSat_elim (hstep pre x post st hl h)
      have := ih (pre ++ [x]) st1 (by simpa using hl) i1
      simpa [List.range'_succ, h1] using this
  intro st h
  simpa [pyFor, pyRange, List.range_eq_range'] using key l [] st rfl h

/-! ### indices, slices -/

theorem pyAt?_nat {α : Type} (l : List α) (n : Nat) : pyAt? l (n : Int) = l[n]? := by simp [pyAt?]

theorem pyAt?_zero {α : Type} (l : List α) : pyAt? l 0 = l[0]? := pyAt?_nat l 0
theorem pyAt?_one {α : Type} (l : List α) : pyAt? l 1 = l[1]? := pyAt?_nat l 1

/-- the item a loop over `range(len(l))` is at, read or replaced, when the list is written as split there -/
theorem pyAt?_append_cons {α : Type} (a : List α) (x : α) (b : List α) (n : Nat) (h : a.length = n) :
    pyAt? (a ++ x :: b) (n : Int) = some x := by
  subst h; simp [pyAt?]

theorem pyListSet?_append_cons {α : Type} (a : List α) (x v : α) (b : List α) (n : Nat) (h : a.length = n) :
    pyListSet? (a ++ x :: b) (n : Int) v = some (a ++ v :: b) := by
  subst h; simp [pyListSet?]

theorem drop_cases {α : Type} (l : List α) (n : Nat) :
    (l.length ≤ n ∧ l.drop n = []) ∨ ∃ c r, n < l.length ∧ l.drop n = c :: r := by
  by_cases h : n < l.length
  · exact .inr ⟨_, _, h, List.drop_eq_getElem_cons h⟩
  · exact .inl ⟨Nat.le_of_not_lt h, List.drop_eq_nil_of_le (Nat.le_of_not_lt h)⟩

theorem pyCharAt_of_drop {l : Text} {n c : Nat} {r : Text} (h : l.drop n = c :: r) : pyCharAt l (n : Int) = some [c] := by
  simp [pyCharAt, pyAt?_nat, ← List.head?_drop, h]

theorem pyBound_nat (len n : Nat) : pyBound len (n : Int) = min n len := by
  have h : ¬ ((n : Int) < 0) := by omega
  simp only [pyBound, h, if_false, Int.toNat_natCast]

/-- Python clamps a slice bound to the length: for the lower bound that changes nothing, also when the upper bound has cut the list -/
theorem drop_min_of_le {α : Type} (m : List α) (x n : Nat) (h : m.length ≤ n) : m.drop (min x n) = m.drop x := by
  by_cases hx : x ≤ n
  · rw [Nat.min_eq_left hx]
  · rw [List.drop_eq_nil_of_le (by omega), List.drop_eq_nil_of_le (by omega)]

theorem pySl_nat {α : Type} (l : List α) (x y : Nat) : pySl l (some (x : Int)) (some (y : Int)) = (l.take y).drop x := by
  simp only [pySl, Option.map_some, Option.getD_some, pyBound_nat]
  rw [← List.take_eq_take_min, drop_min_of_le _ _ _ (List.length_take_le' ..)]

theorem pySl_to_nat {α : Type} (l : List α) (y : Nat) : pySl l none (some (y : Int)) = l.take y := by
  simp only [pySl, Option.map_some, Option.map_none, Option.getD_some, Option.getD_none, pyBound_nat, List.drop_zero]
  rw [← List.take_eq_take_min]

theorem pySl_from_nat {α : Type} (l : List α) (x : Nat) : pySl l (some (x : Int)) none = l.drop x := by
  simp only [pySl, Option.map_some, Option.map_none, Option.getD_some, Option.getD_none, pyBound_nat, List.take_length]
  exact drop_min_of_le _ _ _ (Nat.le_refl _)

theorem pySl_of_drop {α : Type} {l rest : List α} {n : Nat} (hd : l.drop n = rest) (a b : Int) (ha : 0 ≤ a) (hb : 0 ≤ b) :
    pySl l (some ((n : Int) + a)) (some ((n : Int) + b)) = (rest.take b.toNat).drop a.toNat := by
  obtain ⟨a, rfl⟩ := Int.eq_ofNat_of_zero_le ha
  obtain ⟨b, rfl⟩ := Int.eq_ofNat_of_zero_le hb
  subst hd
  rw [← Int.natCast_add, ← Int.natCast_add, pySl_nat]
  simp only [Int.toNat_natCast, List.drop_take, List.drop_drop]
  congr 1; omega

/-! ### `keyEndIndex` -/

/-- the Python result of `keyEndIndex`: the index, or -1 -/
def encIdx : Option Nat → Int
  | some k => (k : Int)
  | none => -1

@[simp] theorem encIdx_some (k : Nat) : encIdx (some k) = (k : Int) := rfl
@[simp] theorem encIdx_none : encIdx none = -1 := rfl
theorem encIdx_injective (a b : Option Nat) (h : encIdx a = encIdx b) : a = b := by
  cases a <;> cases b <;> simp [encIdx] at h ⊢ <;> omega
theorem encIdx_nonneg (o : Option Nat) : 0 ≤ encIdx o ↔ o.isSome = true := by
  cases o <;> simp [encIdx]

/-- the model's scan, one character at a time, in the words of the Python loop -/
theorem keyScan_cons (c : Nat) (r : Text) (i : Nat) :
    keyScan (c :: r) i =
      if c = 92 then keyScan (r.drop 1) (i + 2)
      else if c = 34 then (if r.take 1 = [58] then some i else none)
      else keyScan r (i + 1) := by
  rw [keyScan.eq_def]
  cases r with
  | nil => simp [keyScan]
  | cons x r' =>
    by_cases h1 : c = 92
    · simp [h1]
    · by_cases h2 : c = 34
      · by_cases h3 : x = 58 <;> simp [h2, h3]
      · simp [h1, h2]

theorem keyScan_nil (i : Nat) : keyScan [] i = none := rfl

/-- the model's `keyEndIndex` in the words of the Python text: `n = len(line) - len(line.lstrip(" "))` is where the blanks end, a
    quote must stand there, and the scan starts behind it -/
theorem keyEndIndex_eq (line : Text) :
    ∃ n : Nat, pyLen line - pyLen (pyLstrip [32] line) = (n : Int) ∧
      keyEndIndex line = match line.drop n with
        | 34 :: r => keyScan r (n + 1)
        | _ => none := by
  have hs : pyLstrip [32] line <:+ line := List.dropWhile_suffix _
  have hb : pyLstrip [32] line = line.dropWhile (· == 32) := by
    unfold pyLstrip; congr 1; funext c; cases h : (c == 32) <;> simp_all
  refine ⟨line.length - (pyLstrip [32] line).length, ?_, ?_⟩
  · have := hs.length_le
    simp only [pyLen]; omega
  · rw [← List.suffix_iff_eq_drop.1 hs, hb]; rfl

/-- what the scan answers from index `i` on: the specification of the `while` loop of `keyEndIndex` -/
def scanFrom (line : Text) (i : Int) : Option Int := some (encIdx (keyScan (line.drop i.toNat) i.toNat))

theorem scanFrom_cons {line : Text} {n c : Nat} {r : Text} (h : line.drop n = c :: r) :
    scanFrom line (n : Int) = some (encIdx (keyScan (c :: r) n)) := by
  simp [scanFrom, h]

theorem scanFrom_add {line rest : Text} {n : Nat} (h : line.drop n = rest) (k : Int) (hk : 0 ≤ k) :
    scanFrom line ((n : Int) + k) = some (encIdx (keyScan (rest.drop k.toNat) (n + k.toNat))) := by
  obtain ⟨k, rfl⟩ := Int.eq_ofNat_of_zero_le hk
  have e : ((n : Int) + (k : Int)).toNat = n + k := by omega
  simp [scanFrom, e, ← h, List.drop_drop]

theorem scanFrom_end {line : Text} {n : Nat} (h : line.length ≤ n) : scanFrom line (n : Int) = some (-1) := by
  simp [scanFrom, List.drop_eq_nil_of_le h, keyScan_nil]

/-! ### `prettyPrint` -/

theorem pySplit1_nl (t : Text) : pySplit1 10 t = splitNL t := by
  induction t with
  | nil => rfl
  | cons c r ih =>
    simp only [pySplit1, splitNL, ih]
    cases splitNL r <;> rfl

theorem pyInStr_single (c : Nat) (l : Text) : pyInStr [c] l = l.contains c := by
  induction l with
  | nil => rfl
  | cons x r ih =>
    simp only [pyInStr, ih, List.contains_cons]
    cases h : (x == c) <;> cases h' : (c == x) <;> simp_all [List.isPrefixOf]

theorem pyMulStr_single (n : Int) (c : Nat) : pyMulStr n [c] = List.replicate n.toNat c := by
  simp only [pyMulStr]
  induction n.toNat with
  | zero => rfl
  | succ k ih => simp [List.replicate_succ, ih]

/-! ### `buildOutput` -/

theorem pyDictSet_eq_objSet (d : List (Text × J)) (k : Text) (v : J) : pyDictSet d k v = objSet d k v := by
  induction d with
  | nil => rfl
  | cons a r ih => obtain ⟨k', v'⟩ := a; simp only [pyDictSet, objSet, ih]

theorem pyDictGet?_set {κ ν : Type} [DecidableEq κ] (d : List (κ × ν)) (k k' : κ) (v : ν) :
    pyDictGet? (pyDictSet d k v) k' = if k = k' then some v else pyDictGet? d k' := by
  induction d with
  | nil => simp [pyDictSet, pyDictGet?]
  | cons a r ih =>
    obtain ⟨k0, v0⟩ := a
    by_cases h0 : k0 = k
    · subst h0; by_cases h1 : k0 = k' <;> simp [pyDictSet, pyDictGet?, h1]
    · by_cases h1 : k0 = k'
      · subst h1; simp [pyDictSet, pyDictGet?, h0, Ne.symm h0]
      · simp [pyDictSet, pyDictGet?, h0, h1, ih]

theorem pyDictHas_eq {κ ν : Type} [DecidableEq κ] (d : List (κ × ν)) (k : κ) : pyDictHas d k = (pyDictGet? d k).isSome := by
  induction d with
  | nil => rfl
  | cons a r ih =>
    obtain ⟨k0, v0⟩ := a
    have ih' : r.any (fun p => decide (p.1 = k)) = (pyDictGet? r k).isSome := ih
    by_cases h0 : k0 = k <;> simp [pyDictHas, pyDictGet?, h0, ih']

theorem intDec_natCast (m : Nat) : intDec (m : Int) = natDec m := rfl

/-- a list of one-member dictionaries (what `sectionFun` leaves in each fresh `OrderedDict`): the item at a split -/
theorem pyAt?_singletons {α : Type} {all pre post : List α} {x : α} (h : all = pre ++ x :: post) :
    pyAt? (all.map fun p => [p]) (pre.length : Int) = some [x] := by
  subst h; simpa using pyAt?_append_cons (pre.map fun p => [p]) [x] (post.map fun p => [p]) pre.length (List.length_map _)

/-- during the first pass, after the sections `pre`: every name seen so far is mapped to [its number of occurrences so far, 0] -/
def CountsInv (pre : List (Text × J)) (counts : List (Text × List Int)) : Prop :=
  ∀ name, pyDictGet? counts name = if countName name pre = 0 then none else some [(countName name pre : Int), 0]

theorem CountsInv_nil : CountsInv [] [] := by
  intro name; simp [countName, pyDictGet?]

theorem CountsInv_step {pre : List (Text × J)} {counts : List (Text × List Int)} (x : Text × J) (hinv : CountsInv pre counts) :
    CountsInv (pre ++ [x]) (pyDictSet counts x.1 [(countName x.1 pre : Int) + 1, 0]) := by
  intro name
  rw [pyDictGet?_set, hinv name, countName_snoc]
  by_cases hn : x.1 = name
  · subst hn; simp
  · simp [hn]

/-- during the second pass, before the sections `post`: the dictionary holds [total, next number] for every name, where the next
    numbers are the model's counters, and running the model on `post` from here gives the model's final answer -/
def OutInv (all out0 post : List (Text × J)) (st : List (Text × J) × List (Text × List Int)) : Prop :=
  ∃ counters : List (Text × Nat),
    (∀ name, countName name all ≠ 0 → pyDictGet? st.2 name = some [(countName name all : Int), (counterOf counters name : Int)]) ∧
    buildOutputGo all post counters st.1 = buildOutput all out0

theorem OutInv_start {all : List (Text × J)} (out0 : List (Text × J)) {counts : List (Text × List Int)} (hc : CountsInv all counts) :
    OutInv all out0 all (out0, counts) :=
  ⟨[], fun name hpos => by simp [hc name, hpos, counterOf], rfl⟩

/-- one pass of the second loop.  The look-up of the section's name succeeds; a name that occurs once is stored bare; any other is
    numbered with the model's counter `m`, which goes up by one. -/
theorem OutInv_step {all out0 post out : List (Text × J)} {x : Text × J} {cts : List (Text × List Int)} (hx : x ∈ all)
    (hinv : OutInv all out0 (x :: post) (out, cts)) :
    ∃ m : Nat, pyDictGet? cts x.1 = some [(countName x.1 all : Int), (m : Int)] ∧
      (countName x.1 all = 1 → OutInv all out0 post (pyDictSet out x.1 x.2, cts)) ∧
      (countName x.1 all ≠ 1 → OutInv all out0 post
        (pyDictSet out (x.1 ++ [32] ++ intDec (m : Int)) x.2, pyDictSet cts x.1 [(countName x.1 all : Int), (m : Int) + 1])) := by
  obtain ⟨counters, hrel, hgo⟩ := hinv
  rw [buildOutputGo_cons] at hgo
  refine ⟨counterOf counters x.1, hrel x.1 (countName_pos_of_mem hx), fun h1 => ⟨counters, hrel, ?_⟩,
    fun h1 => ⟨(x.1, counterOf counters x.1 + 1) :: counters.filter (fun q => q.1 != x.1), ?_, ?_⟩⟩
  · rw [if_pos h1] at hgo; rwa [pyDictSet_eq_objSet]
  · intro name hpos
    simp only [pyDictGet?_set, counterOf_update]
    by_cases hn : x.1 = name
    · subst hn; simp
    · simp [hn, hrel name hpos]
  · rw [if_neg h1] at hgo; rwa [pyDictSet_eq_objSet, intDec_natCast]

theorem OutInv_final {all out0 : List (Text × J)} {st : List (Text × J) × List (Text × List Int)} (h : OutInv all out0 [] st) :
    st.1 = Pel.buildOutput all out0 := by
  obtain ⟨counters, _, hgo⟩ := h
  simpa [buildOutputGo] using hgo

end Pel
