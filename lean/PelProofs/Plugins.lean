import PelModel.Plugins
/-
  The module tables (C19) and the choice of parser module (C18).  The four module look-ups are instances of one `CacheRule`: what a
  look-up hands on is read off the table (`seenVia`), and it stores at most one pair, under a name that was not a key, which is
  shown as the import is shown.  Stability (`CacheRule.stable`), the invariant `SameView` behind C19's coherence theorems and the
  contents invariant `Exact` rest on that alone; the component-id table has its own rule (`compIdLookup_snd`).
-/
namespace Pel

/-! ### caches (C19) -/

theorem cacheGet_nil {β} (n : Text) : cacheGet ([] : Cache β) n = none := rfl

theorem cacheGet_cons {β} (m : Text) (v : Option β) (c : Cache β) (n : Text) :
    cacheGet ((m, v) :: c) n = if m = n then some v else cacheGet c n := by
  unfold cacheGet
  by_cases h : m = n <;> simp [h]

theorem cacheGet_none_not_key {β} (c : Cache β) (m : Text) (h : cacheGet c m = none) : m ∉ c.map (·.1) := by
  intro hm
  obtain ⟨p, hp, rfl⟩ := List.mem_map.1 hm
  exact List.find?_eq_none.1 (Option.map_eq_none_iff.1 h) p hp (beq_self_eq_true _)

/-- what a look-up hands on, as a function of the table: `hit` for a stored value, `miss` for a name that is not a key -/
def seenVia {β γ} (hit : Option β → γ) (miss : Text → γ) (c : Cache β) (n : Text) : γ :=
  match cacheGet c n with
  | some w => hit w
  | none => miss n

/-- storing, under a name that is not a key, a value that is shown as the import is shown changes nothing any look-up sees -/
theorem seenVia_cons_stable {β γ} (hit : Option β → γ) (miss : Text → γ) (c : Cache β) (m : Text) (v : Option β)
    (hnone : cacheGet c m = none) (hv : hit v = miss m) (n : Text) :
    seenVia hit miss ((m, v) :: c) n = seenVia hit miss c n := by
  unfold seenVia
  rw [cacheGet_cons]
  by_cases h : m = n
  · subst h
    simp [hnone, hv]
  · simp [h]

/-- What the four module look-ups have in common, and all the proofs below use of them.  `L c n` answers from the table (`seenVia`)
    and leaves it alone, or, `n` not being a key, answers `miss n` and stores ONE pair under `n`, with a value that satisfies `P`;
    and a value that satisfies `P` is shown as the import is shown. -/
structure CacheRule {β γ} (L : Cache β → Text → γ × Cache β) (hit : Option β → γ) (miss : Text → γ) (P : Text → Option β → Prop) :
    Prop where
  run : ∀ c n, L c n = (seenVia hit miss c n, c) ∨ (cacheGet c n = none ∧ ∃ v, L c n = (miss n, (n, v) :: c) ∧ P n v)
  shown : ∀ n v, P n v → hit v = miss n

section
variable {β γ} {L : Cache β → Text → γ × Cache β} {hit : Option β → γ} {miss : Text → γ} {P : Text → Option β → Prop}
  (r : CacheRule L hit miss P)
include r

theorem CacheRule.fst (c : Cache β) (n : Text) : (L c n).1 = seenVia hit miss c n := by
  rcases r.run c n with h | ⟨hn, v, h, _⟩
  · rw [h]
  · rw [h]
    unfold seenVia
    rw [hn]

theorem CacheRule.fst_nil (n : Text) : (L [] n).1 = miss n := r.fst [] n

theorem CacheRule.stable (c : Cache β) (m n : Text) : (L (L c m).2 n).1 = (L c n).1 := by
  rcases r.run c m with h | ⟨hn, v, h, hv⟩
  · rw [h]
  · rw [h, r.fst, r.fst]
    exact seenVia_cons_stable _ _ c m v hn (r.shown m v hv) n

theorem CacheRule.entries {c : Cache β} (hc : ∀ n v, (n, v) ∈ c → P n v) (hk : (c.map (·.1)).Nodup) (m : Text) :
    (∀ n v, (n, v) ∈ (L c m).2 → P n v) ∧ ((L c m).2.map (·.1)).Nodup := by
  rcases r.run c m with h | ⟨hn, v, h, hv⟩ <;> rw [h]
  · exact ⟨hc, hk⟩
  · refine ⟨fun n w hw => ?_, ?_⟩
    · rcases List.mem_cons.1 hw with hw | hw
      · injection hw with h1 h2; subst h1; subst h2; exact hv
      · exact hc n w hw
    · rw [List.map_cons, List.nodup_cons]
      exact ⟨cacheGet_none_not_key c m hn, hk⟩

end

def udHit (w : Option UdPlugin) : UdPlugin := w.getD .absent

theorem udRule (env : ProcEnv) : CacheRule (udLookup env) udHit env.ud (UdEntryOk env) where
  run c n := by
    unfold udLookup seenVia udHit
    cases cacheGet c n with
    | some v => cases v <;> exact .inl rfl
    | none =>
      cases he : env.ud n with
      | absent => exact .inr ⟨rfl, none, rfl, he⟩
      | importRaises msg => exact .inl rfl
      | echo => exact .inr ⟨rfl, some _, rfl, he, by simp, by simp⟩
      | raises msg => exact .inr ⟨rfl, some _, rfl, he, by simp, by simp⟩
      | returnsNone => exact .inr ⟨rfl, some _, rfl, he, by simp, by simp⟩
      | returnsText t => exact .inr ⟨rfl, some _, rfl, he, by simp, by simp⟩
  shown n v h := by
    cases v with
    | none => exact h.symm
    | some b => exact h.1.symm

def impOpt {β} : Imp β → Option β
  | .module b => some b
  | .failed _ => none

theorem srcRule (env : ProcEnv) : CacheRule (srcLookup env) id (fun n => impOpt (env.srcSiteImport n)) (SrcEntryOk env) where
  run c n := by
    unfold srcLookup seenVia
    cases cacheGet c n with
    | some v => exact .inl rfl
    | none =>
      cases he : env.srcSiteImport n with
      | failed f => exact .inr ⟨rfl, none, rfl, f, he⟩
      | module b => exact .inr ⟨rfl, some b, rfl, he⟩
  shown n v h := by
    cases v with
    | none => obtain ⟨f, hf⟩ := h; rw [hf]; rfl
    | some b => unfold SrcEntryOk at h; rw [h]; rfl

theorem calloutRule (env : ProcEnv) :
    CacheRule (calloutLookup env) id (fun n => impOpt (env.calloutImport n)) (CalloutEntryOk env) where
  run c n := by
    unfold calloutLookup seenVia
    cases cacheGet c n with
    | some v => exact .inl rfl
    | none =>
      cases he : env.calloutImport n with
      | failed f => exact .inr ⟨rfl, none, rfl, f, he⟩
      | module b => exact .inr ⟨rfl, some b, rfl, he⟩
  shown n v h := by
    cases v with
    | none => obtain ⟨f, hf⟩ := h; rw [hf]; rfl
    | some b => unfold CalloutEntryOk at h; rw [h]; rfl

def osrcHit : Option SrcPlugin → Got SrcPlugin
  | none => .none
  | some b => .module b

/-- what the wrapper hands on for a module that is not in its table -/
def osrcMiss (env : ProcEnv) (n : Text) : Got SrcPlugin :=
  match env.srcImport n with
  | .module b => .module b
  | .failed .notFound => .none
  | .failed _ => .raised

theorem osrcRule (env : ProcEnv) : CacheRule (osrcLookup env) osrcHit (osrcMiss env) (OsrcEntryOk env) where
  run c n := by
    unfold osrcLookup seenVia osrcHit osrcMiss
    cases cacheGet c n with
    | some v => cases v <;> exact .inl rfl
    | none =>
      cases he : env.srcImport n with
      | module b => exact .inr ⟨rfl, some b, rfl, he⟩
      | failed f =>
        cases f with
        | notFound => exact .inr ⟨rfl, none, rfl, he⟩
        | importError => exact .inl rfl
        | other => exact .inl rfl
  shown n v h := by
    unfold OsrcEntryOk at h
    unfold osrcMiss
    cases v <;> (rw [h]; rfl)

theorem compIdLookup_fst (dir : Option ConfDir) (st : CompIdState) :
    (compIdLookup dir st).1 = (compIdLookup dir st).2.table := rfl

/-- the one attempt to load the table is made by the first look-up that finds it empty; any other look-up changes nothing -/
theorem compIdLookup_snd (dir : Option ConfDir) (st : CompIdState) :
    (compIdLookup dir st).2 =
      if st.table = [] ∧ st.attempted = false then { attempted := true, table := loadConf dir } else st := by
  obtain ⟨a, t⟩ := st
  cases t with
  | cons x r => simp [compIdLookup]
  | nil => cases a <;> cases dir <;> rfl

theorem compIdLookup_idem (dir : Option ConfDir) (st : CompIdState) :
    compIdLookup dir (compIdLookup dir st).2 = compIdLookup dir st := by
  have h : (compIdLookup dir (compIdLookup dir st).2).2 = (compIdLookup dir st).2 := by
    rw [compIdLookup_snd dir (compIdLookup dir st).2, if_neg]
    -- after a look-up the table is loaded or the attempt is on record
    rw [compIdLookup_snd dir st]
    split
    · exact fun h => Bool.noConfusion h.2
    · assumption
  exact Prod.ext (congrArg CompIdState.table h) h

theorem compIdLookup_nil_snd (dir : Option ConfDir) : (compIdLookup dir {}).2 = { attempted := true, table := loadConf dir } :=
  compIdLookup_snd dir {}

theorem compIdLookup_nil (dir : Option ConfDir) : (compIdLookup dir {}).1 = loadConf dir :=
  congrArg CompIdState.table (compIdLookup_nil_snd dir)

/-- at every site `c'` hands the decoder what `c` hands it -/
structure SameView (env : ProcEnv) (c c' : Caches) : Prop where
  ud : ∀ n, (udLookup env c'.ud n).1 = (udLookup env c.ud n).1
  src : ∀ n, (srcLookup env c'.src n).1 = (srcLookup env c.src n).1
  callout : ∀ n, (calloutLookup env c'.callout n).1 = (calloutLookup env c.callout n).1
  osrc : ∀ n, (osrcLookup env c'.osrc n).1 = (osrcLookup env c.osrc n).1
  comp : (compIdLookup env.confDir c'.comp).1 = (compIdLookup env.confDir c.comp).1

theorem SameView.refl (env : ProcEnv) (c : Caches) : SameView env c c :=
  ⟨fun _ => rfl, fun _ => rfl, fun _ => rfl, fun _ => rfl, rfl⟩

theorem SameView.trans {env : ProcEnv} {a b c : Caches} (h1 : SameView env a b) (h2 : SameView env b c) : SameView env a c :=
  ⟨fun n => (h2.ud n).trans (h1.ud n), fun n => (h2.src n).trans (h1.src n), fun n => (h2.callout n).trans (h1.callout n),
   fun n => (h2.osrc n).trans (h1.osrc n), h2.comp.trans h1.comp⟩

theorem stepLookup_sameView (env : ProcEnv) (c : Caches) (l : Lookup) : SameView env c (stepLookup env c l) := by
  cases l with
  | ud m => exact { SameView.refl env c with ud := (udRule env).stable c.ud m }
  | src m => exact { SameView.refl env c with src := (srcRule env).stable c.src m }
  | callout m => exact { SameView.refl env c with callout := (calloutRule env).stable c.callout m }
  | osrc m => exact { SameView.refl env c with osrc := (osrcRule env).stable c.osrc m }
  | compId => exact { SameView.refl env c with comp := congrArg Prod.fst (compIdLookup_idem env.confDir c.comp) }

theorem stepCaches_preserves (env : ProcEnv) (P : Caches → Prop) (hstep : ∀ c l, P c → P (stepLookup env c l))
    (ls : List Lookup) (c : Caches) (hc : P c) : P (stepCaches env c ls) := by
  induction ls generalizing c with
  | nil => exact hc
  | cons l ls ih => exact ih _ (hstep c l hc)

theorem runHistory_preserves (env : ProcEnv) (cfg : SelCfg) (P : Caches → Prop)
    (hstep : ∀ c b t, P c → P (decodeS env cfg c b t).2) (h : List (Bytes × List Lookup)) (c : Caches) (hc : P c) :
    P (runHistory env cfg c h) := by
  induction h generalizing c with
  | nil => exact hc
  | cons p h ih => exact ih _ (hstep c p.1 p.2 hc)

theorem stepCaches_sameView (env : ProcEnv) (ls : List Lookup) (c : Caches) : SameView env c (stepCaches env c ls) :=
  stepCaches_preserves env (SameView env c) (fun c' l h => h.trans (stepLookup_sameView env c' l)) ls c (.refl env c)

theorem stepCaches_comp (env : ProcEnv) (ls : List Lookup) (c : Caches) :
    (stepCaches env c ls).comp = if Lookup.compId ∈ ls then (compIdLookup env.confDir c.comp).2 else c.comp := by
  induction ls generalizing c with
  | nil => rfl
  | cons l ls ih =>
    unfold stepCaches at ih ⊢
    rw [List.foldl_cons, ih]
    cases l <;> simp [stepLookup, compIdLookup_idem]

theorem coherent_iff_sameView {env : ProcEnv} {c : Caches} : Coherent env c ↔ SameView env {} c :=
  ⟨fun h => ⟨h.1, h.2.1, h.2.2.1, h.2.2.2.1, h.2.2.2.2⟩, fun h => ⟨h.ud, h.src, h.callout, h.osrc, h.comp⟩⟩

theorem Coherent.of_sameView {env : ProcEnv} {c c' : Caches} (hc : Coherent env c) (h : SameView env c c') : Coherent env c' :=
  coherent_iff_sameView.2 ((coherent_iff_sameView.1 hc).trans h)

/-- the decoder sees the tables only through what the five sites hand on -/
theorem through_congr {env : ProcEnv} {c c' : Caches} (h : SameView env c c') : env.through c' = env.through c := by
  have e1 : (fun n => (udLookup env c'.ud n).1) = fun n => (udLookup env c.ud n).1 := funext h.ud
  have e2 : seenSrc env c' = seenSrc env c := by
    funext n; unfold seenSrc; rw [h.src n, h.src (s "osrc"), h.osrc n]
  have e3 : seenCallout env c' = seenCallout env c := by
    funext n; unfold seenCallout; rw [h.callout n]
  unfold ProcEnv.through
  rw [e1, e2, e3, h.comp]

/-- The tables hold exactly what look-ups have stored: every pair is the outcome of that module's import in `env` (`UdEntryOk` …), and
    no name is kept twice.  The strong invariant behind `cache_contents`; unrelated to the field `Frames.exact`. -/
structure Exact (env : ProcEnv) (c : Caches) : Prop where
  ud : ∀ n v, (n, v) ∈ c.ud → UdEntryOk env n v
  src : ∀ n v, (n, v) ∈ c.src → SrcEntryOk env n v
  callout : ∀ n v, (n, v) ∈ c.callout → CalloutEntryOk env n v
  osrc : ∀ n v, (n, v) ∈ c.osrc → OsrcEntryOk env n v
  comp : CompStateOk env c.comp
  udKeys : (c.ud.map (·.1)).Nodup
  srcKeys : (c.src.map (·.1)).Nodup
  calloutKeys : (c.callout.map (·.1)).Nodup
  osrcKeys : (c.osrc.map (·.1)).Nodup

theorem Exact.init (env : ProcEnv) : Exact env {} where
  ud := fun _ _ h => nomatch h
  src := fun _ _ h => nomatch h
  callout := fun _ _ h => nomatch h
  osrc := fun _ _ h => nomatch h
  comp := Or.inl ⟨rfl, rfl⟩
  udKeys := List.nodup_nil
  srcKeys := List.nodup_nil
  calloutKeys := List.nodup_nil
  osrcKeys := List.nodup_nil

theorem compStateOk_step (env : ProcEnv) (st : CompIdState) (h : CompStateOk env st) :
    CompStateOk env (compIdLookup env.confDir st).2 := by
  rw [compIdLookup_snd]
  split
  · exact .inr ⟨rfl, rfl⟩
  · exact h

theorem Exact.step (env : ProcEnv) (c : Caches) (l : Lookup) (h : Exact env c) : Exact env (stepLookup env c l) := by
  cases l with
  | ud m =>
    obtain ⟨h1, h2⟩ := (udRule env).entries h.ud h.udKeys m
    exact { h with ud := h1, udKeys := h2 }
  | src m =>
    obtain ⟨h1, h2⟩ := (srcRule env).entries h.src h.srcKeys m
    exact { h with src := h1, srcKeys := h2 }
  | callout m =>
    obtain ⟨h1, h2⟩ := (calloutRule env).entries h.callout h.calloutKeys m
    exact { h with callout := h1, calloutKeys := h2 }
  | osrc m =>
    obtain ⟨h1, h2⟩ := (osrcRule env).entries h.osrc h.osrcKeys m
    exact { h with osrc := h1, osrcKeys := h2 }
  | compId => exact { h with comp := compStateOk_step env c.comp h.comp }

theorem Exact.steps (env : ProcEnv) (ls : List Lookup) (c : Caches) (h : Exact env c) : Exact env (stepCaches env c ls) :=
  stepCaches_preserves env (Exact env) (fun c l h => h.step env c l) ls c h

/-! coherent tables show the fresh environment -/

theorem srcImport_spec (env : ProcEnv) (n : Text) :
    env.srcImport n = .module (env.src.src n) ∨ (env.src.src n = .absent ∧ env.srcImport n = .failed (env.srcFault n)) := by
  unfold ProcEnv.srcImport
  cases env.src.src n <;> simp

theorem calloutImport_spec (env : ProcEnv) (n : Text) :
    env.calloutImport n = .module (env.src.callout n) ∨
      (env.src.callout n = .absent ∧ env.calloutImport n = .failed (env.calloutFault n)) := by
  unfold ProcEnv.calloutImport
  cases env.src.callout n <;> simp

theorem udLookup_nil (env : ProcEnv) (n : Text) : (udLookup env [] n).1 = env.ud n := (udRule env).fst_nil n

theorem seenCallout_nil (env : ProcEnv) (n : Text) : seenCallout env {} n = env.src.callout n := by
  unfold seenCallout
  rw [(calloutRule env).fst_nil]
  rcases calloutImport_spec env n with h | ⟨ha, h⟩
  · rw [h]; rfl
  · rw [h, ha]; rfl

theorem seenSrc_nil (env : ProcEnv) (n : Text) : seenSrc env {} n = env.src.src n := by
  unfold seenSrc
  by_cases h0 : n = s "osrc"
  · rw [if_pos h0]
  · rw [if_neg h0]
    by_cases h1 : isComponentName n = true
    · have hw : env.srcSiteImport (s "osrc") = .module .osrcWrapper := if_pos rfl
      rw [if_pos h1, (srcRule env).fst_nil, hw, (osrcRule env).fst_nil]
      unfold osrcMiss
      rcases srcImport_spec env n with h | ⟨ha, h⟩
      · rw [h]; rfl
      · rw [h, ha]
        cases env.srcFault n <;> rfl
    · rw [if_neg h1, (srcRule env).fst_nil]
      unfold ProcEnv.srcSiteImport
      rw [if_neg h0]
      rcases srcImport_spec env n with h | ⟨ha, h⟩
      · rw [h]; rfl
      · rw [h, ha]; rfl

theorem through_nil (env : ProcEnv) : env.through {} = env.fresh := by
  have e1 : (fun n => (udLookup env ({} : Caches).ud n).1) = env.ud := funext (udLookup_nil env)
  have e2 : seenSrc env {} = env.src.src := funext (seenSrc_nil env)
  have e3 : seenCallout env {} = env.src.callout := funext (seenCallout_nil env)
  unfold ProcEnv.through ProcEnv.fresh
  rw [e1, e2, e3, compIdLookup_nil]

theorem ProcEnv.fresh_compIds (env : ProcEnv) : env.fresh.T.compIds = loadConf env.confDir := rfl

theorem through_eq_of_coherent (env : ProcEnv) (c : Caches) (hc : Coherent env c) : env.through c = env.fresh :=
  (through_congr (coherent_iff_sameView.1 hc)).trans (through_nil env)

/-! ### the parser module `srcDetails` consults (C18) -/

namespace C18
/-- the SRC parser module consulted: `<creator>src`; for BMC SRCs the component named by characters 4..5 of the reference
    code, or the hostboot parser for BC codes -/
def srcModuleName (creator ascii : Text) : Text :=
  if creator.map toLowerAscii = s "o" then
    (if ascii.take 2 = s "BC" then s "bsrc" else s "o" ++ ((ascii.drop 4).take 2).map toLowerAscii ++ s "00")
  else creator.map toLowerAscii ++ s "src"
end C18

/-- what `SRC.parse` and the `json.loads` after it make of the behaviour of the one module they consult -/
def SrcPlugin.details (b : SrcPlugin) (ascii : Text) (hexwords : List Text) : SrcDetails :=
  match b with
  | .absent => .none
  | .raises => .none
  | .echo => .some (.obj [kv "refcode" (jstr ascii), kv "words" (.arr (hexwords.map jstr))])
  | .returnsText t =>
    if t = [] ∨ t = s "null" then .none else
    match loads t with
    | .ok j => .some j
    | .bad => .fail
    | .unsupported => .unsupported

theorem srcDetails_eq (env : SrcEnv) (creator ascii : Text) (hexwords : List Text) :
    srcDetails env creator ascii hexwords = (env.src (C18.srcModuleName creator ascii)).details ascii hexwords := rfl

end Pel
