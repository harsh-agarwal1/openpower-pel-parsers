import PelModel.Cli
import PelProofs.Basic
import PelProofs.Frames
/-
  `deleteMode`, `processId`, the length test of `--src` and the `--bmc-id` header reader on the forms of input that C09, C10 and C11
  speak of.
-/
namespace Pel

theorem deleteMode_bad {e : Text} (d : Dir) (hp : processId e = none) :
    deleteMode e d = ({ stdout := [], stderrLines := 1, exit := 1 }, d) := by
  simp only [deleteMode, hp]

theorem deleteMode_notfound {e pid : Text} {d : Dir} (hp : processId e = some pid)
    (hf : d.find? (fun f => isInfix pid f.name) = none) :
    deleteMode e d = ({ stdout := s "PEL not found\n", stderrLines := 0, exit := 0 }, d) := by
  simp only [deleteMode, hp, hf]

theorem deleteMode_found {e pid : Text} {d : Dir} {f : FileEntry} (hp : processId e = some pid)
    (hf : d.find? (fun f => isInfix pid f.name) = some f) :
    deleteMode e d = ({ stdout := [], stderrLines := 0, exit := 0 }, d.erase f) := by
  simp only [deleteMode, hp, hf]

theorem hexU_ne_X (n : Nat) : hexU n ≠ 88 := by unfold hexU; split <;> omega

/-- the second character is a hex digit, and `X` is none -/
theorem hexFix_no_0X (n v : Nat) : (s "0X").isPrefixOf (hexFix (n + 2) v) = false := by
  have h2 : ∃ a x rest, hexFix (n + 2) v = a :: hexU x :: rest := by
    induction n generalizing v with
    | zero => exact ⟨hexU (v / 16), v, [], by simp [hexFix]⟩
    | succ n ih =>
      obtain ⟨a, x, rest, e⟩ := ih (v / 16)
      refine ⟨a, x, rest ++ [hexU v], ?_⟩
      rw [hexFix, e]; rfl
  obtain ⟨a, x, rest, e⟩ := h2
  rw [e, s_0X]
  simp only [List.isPrefixOf, Bool.and_eq_false_iff, beq_eq_false_iff_ne, ne_eq]
  exact Or.inr (Or.inl (fun hx => hexU_ne_X x hx.symm))

theorem processId_plain (t h8 : Text) (hu : t.map toUpperAscii = h8) (hnp : (s "0X").isPrefixOf h8 = false)
    (hl : h8.length = 8) : processId t = some h8 := by
  simp only [processId, hu, hnp, Bool.false_eq_true, if_false, hl, if_true]

theorem processId_0X (t h8 : Text) (hu : t.map toUpperAscii = s "0X" ++ h8) (hl : h8.length = 8) :
    processId t = some h8 := by
  have hp : (s "0X").isPrefixOf (s "0X" ++ h8) = true := by
    rw [s_0X]; simp [List.isPrefixOf]
  have hd : (s "0X" ++ h8).drop 2 = h8 := by rw [s_0X]; rfl
  simp only [processId, hu, hp, if_true, hd, hl]

theorem processId_ne_nil {x pid : Text} (h : processId x = some pid) : x ≠ [] := by
  intro hx
  subst hx
  simp [processId, s_0X] at h

theorem map_upper_0x : (s "0x").map toUpperAscii = s "0X" := by rw [s_0x, s_0X]; decide
theorem map_upper_0X : (s "0X").map toUpperAscii = s "0X" := by rw [s_0X]; decide

/-- a mode that may first reject its argument (`--src` with a needle that is too long): two runs that agree otherwise reject alike -/
theorem ite_out (c : Prop) [Decidable c] (x y y' : CliOut) (h : y.stdout = y'.stdout ∧ y.exit = y'.exit) :
    (if c then x else y).stdout = (if c then x else y').stdout ∧ (if c then x else y).exit = (if c then x else y').exit := by
  split
  · exact ⟨rfl, rfl⟩
  · exact h

/-- the `--bmc-id` header reader, `bind_ok` read backwards -/
theorem bmcReader_ok (env : Env) (b : Bytes) (id : Nat) (rest : Bytes)
    (h : (do
      let h1 ← parseHeader
      if h1.id ≠ sidPH then pure none else do
      let (_, ph) ← decodePH env.T h1
      pure (some ph.obmcLogID) : Rd (Option Nat)) b = .ok (some id, rest)) :
    ∃ j ph, (do let h1 ← parseHeader; decodePH env.T h1) b = .ok ((j, ph), rest) ∧ ph.obmcLogID = id := by
  obtain ⟨h1, st1, hph, h⟩ := bind_ok_inv h
  split at h
  · cases h
  · obtain ⟨⟨j, ph⟩, st2, hd, h⟩ := bind_ok_inv h
    cases h
    exact ⟨j, ph, (bind_ok _ _ _ _ _ hph).trans hd, rfl⟩

end Pel
