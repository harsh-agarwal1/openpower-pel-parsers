import PelModel.PelSpec
import PelProofs.JsonObj
/-
  Lemmas about the message-registry model (`errorDetails`, `fillMsg`, `wordDescs`; PelModel/Src.lean) used by C03.
-/
namespace Pel

theorem fillMsg_cons2 (c d : Nat) (rest : Text) (args : List Text) :
    fillMsg (c :: d :: rest) args =
      (if c = 37 ∧ 49 ≤ d ∧ d ≤ 57 then
        match args with
        | [] => none
        | a :: as => (fillMsg rest as).map (a ++ ·)
      else (fillMsg (d :: rest) args).map (c :: ·)) := rfl

theorem fillMsg_cons_ne (c : Nat) (t : Text) (args : List Text) (hc : c ≠ 37) :
    fillMsg (c :: t) args = (fillMsg t args).map (c :: ·) := by
  cases t with
  | nil => simp [fillMsg]
  | cons d rest =>
    rw [fillMsg_cons2, if_neg (by intro h; exact hc h.1)]

theorem fillMsg_seg (seg t : Text) (args : List Text) (hs : ∀ c ∈ seg, c ≠ 37) :
    fillMsg (seg ++ t) args = (fillMsg t args).map (seg ++ ·) := by
  induction seg with
  | nil => simp
  | cons c r ih =>
    rw [List.cons_append, fillMsg_cons_ne c _ _ (hs c (by simp)), ih (fun x hx => hs x (by simp [hx])), Option.map_map]
    rfl

theorem fillMsg_placeholder (d : Nat) (t : Text) (args : List Text) (hd : 1 ≤ d ∧ d ≤ 9) :
    fillMsg (37 :: (48 + d) :: t) args = match args with
      | [] => none
      | a :: as => (fillMsg t as).map (a ++ ·) := by
  rw [fillMsg_cons2, if_pos ⟨rfl, by omega, by omega⟩]

theorem fillMsg_plain (seg : Text) (args : List Text) (hs : ∀ c ∈ seg, c ≠ 37) : fillMsg seg args = some seg := by
  have := fillMsg_seg seg [] args hs
  simpa [fillMsg] using this

/-- the placeholders of a message are filled, in order of occurrence, with the arguments; extra arguments are ignored, and
    with fewer arguments than placeholders there is no message (IndexError) -/
theorem fillMsg_join (segs : List Text) (digits : List Nat) (args : List Text)
    (hl : segs.length = digits.length + 1) (hd : ∀ d ∈ digits, 1 ≤ d ∧ d ≤ 9) (hs : ∀ seg ∈ segs, ∀ c ∈ seg, c ≠ 37) :
    fillMsg (joinPlaceholders segs digits) args =
      if digits.length ≤ args.length then some (interleave segs args) else none := by
  fun_induction joinPlaceholders segs digits generalizing args with
  | case1 => simp at hl
  | case2 seg digits =>
    obtain rfl : digits = [] := List.eq_nil_of_length_eq_zero (by simpa using hl.symm)
    simpa [interleave] using fillMsg_plain seg args (hs seg (by simp))
  | case3 seg segs hne => cases segs <;> simp at hl hne
  | case4 seg segs d ds hne ih =>
    rw [List.append_assoc, fillMsg_seg seg _ _ (hs seg (by simp)), List.cons_append, List.cons_append, List.nil_append,
      fillMsg_placeholder d _ args (hd d (by simp))]
    cases args with
    | nil => rfl
    | cons a as =>
      simp only
      rw [ih as (by simpa using hl) (fun x hx => hd x (by simp [hx])) (fun x hx => hs x (by simp [hx])), interleave.eq_4 _ _ _ _ hne]
      by_cases h : ds.length ≤ as.length <;> simp [h]

theorem hasBrace_append (a b : Text) : hasBrace (a ++ b) = (hasBrace a || hasBrace b) := List.any_append

theorem hasBrace_join (segs : List Text) (digits : List Nat)
    (hd : ∀ d ∈ digits, 1 ≤ d ∧ d ≤ 9) (hs : ∀ seg ∈ segs, ∀ c ∈ seg, c ≠ 123 ∧ c ≠ 125) :
    hasBrace (joinPlaceholders segs digits) = false := by
  have hseg : ∀ seg ∈ segs, hasBrace seg = false := fun seg h =>
    List.any_eq_false.2 fun c hc => by simp [(hs seg h c hc).1, (hs seg h c hc).2]
  fun_induction joinPlaceholders segs digits with
  | case1 => rfl
  | case2 seg => exact hseg seg (by simp)
  | case3 seg segs _ ih =>
    rw [hasBrace_append, hseg seg (by simp), ih hd (fun x hx => hs x (by simp [hx])) (fun x hx => hseg x (by simp [hx]))]
    rfl
  | case4 seg segs d ds _ ih =>
    have : hasBrace [37, 48 + d] = false := by have := hd d (by simp); simp [hasBrace]; omega
    rw [hasBrace_append, hasBrace_append, hseg seg (by simp), this,
      ih (fun x hx => hd x (by simp [hx])) (fun x hx => hs x (by simp [hx])) (fun x hx => hseg x (by simp [hx]))]
    rfl

/-! ### argument sources -/

theorem pyWord_ge2 (words : List Nat) (n : Nat) (hn : 2 ≤ n) (hl : n - 2 < words.length) :
    pyWord words n = some (words.getD (n - 2) 0) := by
  unfold pyWord
  rw [if_pos hn, List.getD_eq_getElem?_getD, List.getElem?_eq_getElem hl]
  rfl

theorem argWord_digit (words : List Nat) (src : Text) (c : Nat) (hc : src.getLast? = some c) (h2 : 50 ≤ c ∧ c ≤ 57)
    (hw : words.length = 8) : argWord words src = .ok (srcWordHex words src) := by
  unfold argWord srcWordHex
  rw [hc]
  simp only [Option.getD_some]
  rw [if_neg (by omega), if_pos (by omega), pyWord_ge2 words (c - 48) (by omega) (by omega)]
  rfl

theorem argWords_digits (words : List Nat) (hw : words.length = 8) (srcs : List Text)
    (hs : ∀ src ∈ srcs, ∃ c, src.getLast? = some c ∧ 50 ≤ c ∧ c ≤ 57) :
    argWords words srcs = .ok (srcs.map (srcWordHex words)) := by
  induction srcs with
  | nil => rfl
  | cons a r ih =>
    obtain ⟨c, hc, h2⟩ := hs a (by simp)
    rw [argWords, argWord_digit words a c hc h2 hw, ih (fun x hx => hs x (by simp [hx]))]
    rfl

/-! ### first match -/

theorem regLookup_none (reg : List RegEntry) (code ty : Text) (h : ∀ p ∈ reg, p.isMatch code ty = false) :
    regLookup reg code ty = none :=
  List.find?_eq_none.2 fun p hp => by simp [h p hp]

theorem regLookup_append_of_no_match (pre post : List RegEntry) (code ty : Text)
    (h : ∀ p ∈ pre, p.isMatch code ty = false) : regLookup (pre ++ post) code ty = regLookup post code ty := by
  have := regLookup_none pre code ty h
  unfold regLookup at this ⊢
  rw [List.find?_append, this, Option.none_or]

theorem regLookup_cons_match (e : RegEntry) (post : List RegEntry) (code ty : Text) (h : e.isMatch code ty = true) :
    regLookup (e :: post) code ty = some e := by
  unfold regLookup
  rw [List.find?_cons, h]

/-- what `errorDetails` does with the entry found -/
def detailsOf (e : RegEntry) (words : List Nat) : ErrDet :=
  match buildMessage e words with
  | .fail => .fail
  | .unsupported => .unsupported
  | .ok msg =>
    if msg = [] then .none else
    match wordDescs words e.words [] with
    | .fail => .fail
    | .unsupported => .unsupported
    | .ok descs => .some (objUpdate [kv "Message" (jstr msg)] descs)

namespace C03
/-- the SRC's registry key: `"0x" + asciiString[4:8]` and the type `asciiString[0:2]` -/
def regCode (ascii : Text) : Text := s "0x" ++ (ascii.drop 4).take 4
def regType (ascii : Text) : Text := ascii.take 2
end C03

theorem errorDetails_eq (reg : List RegEntry) (ascii : Text) (words : List Nat) :
    errorDetails reg ascii words =
      (match regLookup reg (C03.regCode ascii) (C03.regType ascii) with
        | none => .none
        | some e => detailsOf e words) := by
  unfold errorDetails detailsOf
  rfl

theorem wordDescs_keys (words : List Nat) (ws : List RegWord) (acc out : List (Text × J))
    (h : wordDescs words ws acc = .ok out) (p : Text × J) (hp : p ∈ out) : p ∈ acc ∨ ∃ w ∈ ws, w.prop = some p.1 := by
  fun_induction wordDescs words ws acc with
  | case1 acc => cases h; exact .inl hp
  | case2 w r acc _ ih => exact (ih h).imp_right fun ⟨w', hw', hp'⟩ => ⟨w', by simp [hw'], hp'⟩
  | case3 | case4 | case5 => cases h
  | case6 w r acc d _ n _ v _ k hk ih =>
    rcases ih h with h' | ⟨w', hw', hp'⟩
    · rcases mem_objSet _ _ _ p h' with h'' | h''
      · exact .inr ⟨w, by simp, by rw [hk, h'']⟩
      · exact .inl h''
    · exact .inr ⟨w', by simp [hw'], hp'⟩

theorem detailsOf_eq_some {e : RegEntry} {words : List Nat} {ms : List (Text × J)} (h : detailsOf e words = .some ms) :
    ∃ msg descs, buildMessage e words = .ok msg ∧ wordDescs words e.words [] = .ok descs ∧
      ms = objUpdate [kv "Message" (jstr msg)] descs := by
  unfold detailsOf at h
  split at h
  next => cases h
  next => cases h
  next msg hm =>
    split at h
    next => cases h
    next =>
      split at h
      next => cases h
      next => cases h
      next descs hwd => exact ⟨msg, descs, hm, hwd, (ErrDet.some.inj h).symm⟩

/-- error details that are shown begin with the message built for the entry, unless a hex-word description is filed under the
    key "Message" as well (`od.update(descs)` leaves a key it overwrites in its place and appends the others) -/
theorem detailsOf_message (e : RegEntry) (words : List Nat) (ms : List (Text × J)) (h : detailsOf e words = .some ms)
    (hprop : ∀ w ∈ e.words, w.prop ≠ some (s "Message")) :
    ∃ msg rest, buildMessage e words = .ok msg ∧ ms = (s "Message", .str msg) :: rest := by
  obtain ⟨msg, descs, hm, hwd, rfl⟩ := detailsOf_eq_some h
  have hk : ∀ p ∈ descs, p.1 ≠ s "Message" := fun p hp heq =>
    (wordDescs_keys words e.words [] descs hwd p hp).elim (fun h => by cases h) fun ⟨w, hw, hp'⟩ => hprop w hw (heq ▸ hp')
  obtain ⟨rest, hr⟩ := objUpdate_head (s "Message") (.str msg) descs hk []
  exact ⟨msg, rest, hm, hr⟩

end Pel
