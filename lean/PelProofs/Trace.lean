import PelModel.Trace
import PelProofs.Basic
/- `parseTrace` against the declarative `specTrace` (C15): the entry reader in closed form, the loop unfolded once, the
   string choice as `find?` / last partial match. -/
namespace Pel

theorem TraceHeaderRaw.enc_length (h : TraceHeaderRaw) (hw : h.WF) : h.enc.length = 32 := by
  obtain ⟨_, _, _, _, hc, _, hr, _, _, _⟩ := hw
  simp [TraceHeaderRaw.enc, hc, hr]

theorem padOf_le (n : Nat) : padOf n ≤ 3 := by
  unfold padOf; split <;> omega

/-- the six tests of `TraceEntry.read` in one: the bytes that are read, and when the read succeeds -/
theorem readTraceEntry_eq (r : Bytes) :
    readTraceEntry r =
      let len := fromBE ((r.drop 4).take 2)
      let total := 16 + len + padOf len + 4
      if 16 ≤ r.length ∧ len ≤ 1024 ∧ total ≤ r.length ∧ fromBE ((r.drop (16 + len + padOf len)).take 4) = total then
        some ({ tbh := fromBE (r.take 2), tbl := fromBE ((r.drop 2).take 2), length := len,
                tag := fromBE ((r.drop 6).take 2), hash := fromBE ((r.drop 8).take 4),
                line := fromBE ((r.drop 12).take 4), data := (r.drop 16).take len }, total)
      else none := by
  simp only [readTraceEntry, traceFixedSize, maxDataLen]
  generalize fromBE ((r.drop 4).take 2) = len
  generalize padOf len = pd
  generalize fromBE ((r.drop (16 + len + pd)).take 4) = tr
  by_cases hc : 16 ≤ r.length ∧ len ≤ 1024 ∧ 16 + len + pd + 4 ≤ r.length ∧ tr = 16 + len + pd + 4
  · rw [if_neg (by omega), if_neg (by omega), if_neg (by omega), if_neg (by omega), if_neg (by omega),
      if_neg (by omega), if_pos hc]
  · rw [if_neg hc, Option.eq_none_iff_forall_ne_some]
    intro x hx
    simp only [Option.ite_none_left_eq_some] at hx
    omega

theorem TraceEntry.enc_length (e : TraceEntry) (he : e.WF) (pad : Bytes) : (e.enc pad).length = e.size := by
  obtain ⟨_, _, _, _, _, hl, _, _⟩ := he
  simp [TraceEntry.enc, TraceEntry.size, ← hl]; omega

theorem traceLoop_eq (size idx : Nat) (r : Bytes) :
    traceLoop size idx r =
      if idx < size then
        match readTraceEntry r with
        | some (e, n) => e :: traceLoop size (idx + n) (r.drop n)
        | none => []
      else [] := by
  rw [traceLoop]
  split
  · split <;> simp [*]
  · rfl

theorem traceArgs_eq (e : TraceEntry) : traceArgs e = if e.tag = 0x4644 then [] else wordsOf 5 e.data := by
  unfold traceArgs isBinaryTrace typeFieldBin maxArgs
  by_cases h : e.tag = 0x4644 <;> simp [h]

theorem getTraceStringGo_eq (h : Nat) : ∀ (ss : List TraceString) (acc : Option TraceString),
    getTraceStringGo ss h acc =
      match ss.find? (fun t => t.hash == h) with
      | some t => some t
      | none => ((ss.filter (fun t => t.hash % 100000 == h % 100000)).getLast?).or acc := by
  intro ss
  induction ss with
  | nil => intro acc; simp [getTraceStringGo]
  | cons t ts ih =>
    intro acc
    unfold getTraceStringGo
    by_cases h1 : t.hash = h
    · simp [h1]
    · have hb : (t.hash == h) = false := by simp [h1]
      simp only [hb, List.find?_cons, isPartialMatch, bne, Bool.not_false, Bool.true_and]
      by_cases h2 : t.hash % 100000 = h % 100000
      · have hb2 : (t.hash % 100000 == h % 100000) = true := by simp [h2]
        simp only [hb2, if_true, List.filter_cons, Bool.false_eq_true, if_false]
        rw [ih]
        cases ts.find? (fun t => t.hash == h) with
        | some u => rfl
        | none =>
          simp only [List.getLast?_cons]
          cases (ts.filter (fun t => t.hash % 100000 == h % 100000)).getLast? <;> simp
      · have hb2 : (t.hash % 100000 == h % 100000) = false := by simp [h2]
        simp only [hb2, List.filter_cons, Bool.false_eq_true, if_false]
        rw [ih]

theorem specChoice_residue (ss : List TraceString) (h : Nat) (t : TraceString) (hc : specChoice ss h = some t) :
    t.hash % 100000 = h % 100000 := by
  unfold specChoice at hc
  split at hc
  · rename_i u hf
    cases hc
    have := List.find?_some hf
    simp at this
    rw [this]
  · have hm := List.mem_of_getLast? hc
    simpa using (List.mem_filter.mp hm).2

theorem specShown_prefix (size : Nat) : ∀ (es : List TraceEntry) (idx : Nat), specShown size idx es <+: es := by
  intro es
  induction es with
  | nil => intro idx; exact List.prefix_refl _
  | cons a es ih =>
    intro idx
    unfold specShown
    split
    · exact List.cons_prefix_cons.2 ⟨rfl, ih _⟩
    · exact List.nil_prefix

theorem specShown_length_le (size : Nat) : ∀ (es : List TraceEntry) (idx : Nat),
    (specShown size idx es).length ≤ es.length :=
  fun es idx => (specShown_prefix size es idx).length_le

end Pel
