import PelProofs.JsonText
/- The text-level aligner `prettyPrint` applied to `dumps` is the structural rendering `aText`. -/
namespace Pel

/-! ### the key scan over rendered strings -/

theorem hexL_ne34 (x : Nat) : hexL x ≠ 34 := fun h => absurd (h ▸ isHexDigit_hexL x) (by decide)
theorem hexL_ne92 (x : Nat) : hexL x ≠ 92 := fun h => absurd (h ▸ isHexDigit_hexL x) (by decide)

theorem keyScan_plain (c : Nat) (t : Text) (i : Nat) (h1 : c ≠ 92) (h2 : c ≠ 34) :
    keyScan (c :: t) i = keyScan t (i + 1) := by
  rw [keyScan.eq_def]; simp [h1, h2]

theorem keyScan_bs (x : Nat) (t : Text) (i : Nat) : keyScan (92 :: x :: t) i = keyScan t (i + 2) := by
  rw [keyScan.eq_def]; simp

theorem keyScan_hex4 (c : Nat) (t : Text) (i : Nat) : keyScan (hex4L c ++ t) i = keyScan t (i + 4) := by
  simp only [hex4L, List.cons_append, List.nil_append]
  rw [keyScan_plain _ _ _ (hexL_ne92 _) (hexL_ne34 _), keyScan_plain _ _ _ (hexL_ne92 _) (hexL_ne34 _),
    keyScan_plain _ _ _ (hexL_ne92 _) (hexL_ne34 _), keyScan_plain _ _ _ (hexL_ne92 _) (hexL_ne34 _)]

theorem hex4L_length (c : Nat) : (hex4L c).length = 4 := by simp [hex4L]

theorem keyScan_esc (c : Nat) (t : Text) (i : Nat) :
    keyScan (escChar c ++ t) i = keyScan t (i + (escChar c).length) := by
  rcases escChar_shape c with ⟨e, _, hs⟩ | ⟨_, _, h1, h2, hs⟩ | ⟨_, hs⟩ | ⟨_, hs⟩ <;> rw [hs]
  · exact keyScan_bs _ _ _
  · exact keyScan_plain _ _ _ h2 h1
  · simp only [List.cons_append, keyScan_bs, keyScan_hex4, List.length_cons, hex4L_length]
  · simp only [List.cons_append, List.append_assoc, keyScan_bs, keyScan_hex4, List.length_cons, hex4L_length,
      List.length_append]

theorem keyScan_flat (k t : Text) (i : Nat) :
    keyScan (k.flatMap escChar ++ t) i = keyScan t (i + (k.flatMap escChar).length) := by
  induction k generalizing i with
  | nil => simp
  | cons c k ih =>
    simp only [List.flatMap_cons, List.append_assoc, keyScan_esc, ih, List.length_append]
    congr 1; omega

theorem keyScan_rendered (k rest : Text) (i : Nat) :
    keyScan (k.flatMap escChar ++ 34 :: 58 :: rest) i = some (i + (k.flatMap escChar).length) := by
  rw [keyScan_flat, keyScan.eq_def]; simp

theorem keyScan_item (t rest : Text) (i : Nat) (h : rest.head? ≠ some 58) :
    keyScan (t.flatMap escChar ++ 34 :: rest) i = none := by
  rw [keyScan_flat]
  cases rest with
  | nil => rw [keyScan.eq_def]; simp
  | cons c r =>
    have : c ≠ 58 := by simpa using h
    rw [keyScan.eq_def]; simp [this]

/-! ### join / split -/

/-- every line with a newline before it: what `joinWith [10]` puts behind the first line (`joinWith_cons`) -/
def jt (xs : List Text) : Text := xs.flatMap (fun l => 10 :: l)

theorem jt_nil : jt [] = [] := rfl
theorem jt_cons (x : Text) (xs : List Text) : jt (x :: xs) = 10 :: x ++ jt xs := by simp [jt]
theorem jt_append (xs ys : List Text) : jt (xs ++ ys) = jt xs ++ jt ys := by simp [jt]

theorem joinWith_cons (x : Text) (xs : List Text) : joinWith [10] (x :: xs) = x ++ jt xs := by
  rw [joinWith_sep]; rfl

theorem splitNL_ne_nil (t : Text) : splitNL t ≠ [] := by
  cases t with
  | nil => simp [splitNL]
  | cons c r =>
    rw [splitNL]
    split
    · simp
    · split <;> simp

theorem splitNL_nl (r : Text) : splitNL (10 :: r) = [] :: splitNL r := by
  rw [splitNL]
  cases h : splitNL r with
  | nil => exact absurd h (splitNL_ne_nil r)
  | cons l ls => simp

theorem splitNL_char (c : Nat) (r : Text) (hc : c ≠ 10) :
    splitNL (c :: r) = (c :: (splitNL r).headD []) :: (splitNL r).tail := by
  rw [splitNL]
  cases h : splitNL r with
  | nil => exact absurd h (splitNL_ne_nil r)
  | cons l ls => simp [hc]

theorem splitNL_line (l r : Text) (h : 10 ∉ l) : splitNL (l ++ 10 :: r) = l :: splitNL r := by
  induction l with
  | nil => simpa using splitNL_nl r
  | cons c l ih =>
    have hc : c ≠ 10 := by intro e; apply h; simp [e]
    have hl : 10 ∉ l := by intro e; apply h; simp [e]
    rw [List.cons_append, splitNL_char _ _ hc]
    simp [ih hl]

theorem splitNL_last (l : Text) (h : 10 ∉ l) : splitNL l = [l] := by
  induction l with
  | nil => simp [splitNL]
  | cons c l ih =>
    have hc : c ≠ 10 := by intro e; apply h; simp [e]
    have hl : 10 ∉ l := by intro e; apply h; simp [e]
    rw [splitNL_char _ _ hc]
    simp [ih hl]

theorem splitNL_join (x : Text) (xs : List Text) (hx : 10 ∉ x) (hxs : ∀ l ∈ xs, 10 ∉ l) :
    splitNL (x ++ jt xs) = x :: xs := by
  induction xs generalizing x with
  | nil => simpa [jt] using splitNL_last x hx
  | cons y ys ih =>
    rw [jt_cons, List.cons_append, splitNL_line _ _ hx, ih y (hxs y (by simp)) (fun l hl => hxs l (by simp [hl]))]

/-! ### `ppLine` on the kinds of lines `dumps` produces -/

theorem dropWhile_spaces (m c : Nat) (r : Text) (hc : c ≠ 32) :
    (spaces m ++ c :: r).dropWhile (· == 32) = c :: r := by
  induction m with
  | zero => simp [spaces, hc]
  | succ m ih =>
    have : spaces (m + 1) = 32 :: spaces m := by simp [spaces, List.replicate_succ]
    rw [this, List.cons_append, List.dropWhile_cons]
    simpa using ih

theorem keyEndIndex_quote (m : Nat) (r : Text) : keyEndIndex (spaces m ++ 34 :: r) = keyScan r (m + 1) := by
  simp only [keyEndIndex, dropWhile_spaces _ _ _ (show (34 : Nat) ≠ 32 by decide)]
  simp

theorem ppLine_plain (n m c : Nat) (r : Text) (h1 : c ≠ 34) (h2 : c ≠ 32) :
    ppLine n (spaces m ++ c :: r) = spaces m ++ c :: r := by
  have hk : keyEndIndex (spaces m ++ c :: r) = none := by
    simp only [keyEndIndex, dropWhile_spaces _ _ _ h2]
    split
    · rename_i heq; exact absurd (List.cons.inj heq).1 h1
    · rfl
  unfold ppLine
  split
  · rfl
  · rw [hk]

theorem not_mem_spaces (m c : Nat) (h : c ≠ 32) : c ∉ spaces m := by
  simp [spaces, List.mem_replicate, h]

theorem renderStr_length (k : Text) : (renderStr k).length = (k.flatMap escChar).length + 2 := by
  simp [renderStr]

theorem ppLine_member (n m : Nat) (k rest : Text) :
    ppLine n (spaces m ++ renderStr k ++ 58 :: 32 :: rest) =
      spaces m ++ renderStr k ++ 58 ::
        ((if (renderStr k ++ rest).contains 123 then [] else spaces (n - (m + (renderStr k).length - 1)))
          ++ 32 :: rest) := by
  have hcont : (spaces m ++ renderStr k ++ 58 :: 32 :: rest).contains 123 = (renderStr k ++ rest).contains 123 := by
    simp [not_mem_spaces m 123 (by decide)]
  have hkey : keyEndIndex (spaces m ++ renderStr k ++ 58 :: 32 :: rest)
      = some (m + 1 + (k.flatMap escChar).length) := by
    have e : spaces m ++ renderStr k ++ 58 :: 32 :: rest
        = spaces m ++ 34 :: (k.flatMap escChar ++ 34 :: 58 :: 32 :: rest) := by simp [renderStr]
    rw [e, keyEndIndex_quote, keyScan_rendered]
  unfold ppLine
  rw [hcont, hkey]
  by_cases hc : (renderStr k ++ rest).contains 123 = true
  · rw [if_pos hc, if_pos hc]; simp
  · rw [if_neg hc, if_neg hc]
    have hlen : (spaces m ++ renderStr k ++ [58]).length = m + 1 + (k.flatMap escChar).length + 2 := by
      simp [renderStr_length]; omega
    have e2 : spaces m ++ renderStr k ++ 58 :: 32 :: rest = (spaces m ++ renderStr k ++ [58]) ++ 32 :: rest := by
      simp
    have e3 : m + (renderStr k).length - 1 = m + 1 + (k.flatMap escChar).length := by
      rw [renderStr_length]; omega
    simp only []
    rw [e2, List.take_left' hlen, List.drop_left' hlen, e3]
    simp

/-! ### first lines -/

theorem firstLineOf_shape (x : J) :
    (∃ t, firstLineOf x = renderStr t) ∨ ∃ c r, firstLineOf x = c :: r ∧ c ≠ 34 ∧ c ≠ 32 := by
  cases x with
  | null => exact .inr ⟨110, _, s_null, by omega, by omega⟩
  | bool b =>
    cases b
    · exact .inr ⟨102, _, s_false, by omega, by omega⟩
    · exact .inr ⟨116, _, s_true, by omega, by omega⟩
  | num z => obtain ⟨c, r, e, hc⟩ := intDec_head z; exact .inr ⟨c, r, e, by omega, by omega⟩
  | str t => exact .inl ⟨t, rfl⟩
  | arr l =>
    cases l
    · exact .inr ⟨91, _, s_arr, by omega, by omega⟩
    · exact .inr ⟨91, [], s_lbracket, by omega, by omega⟩
  | obj l =>
    cases l
    · exact .inr ⟨123, _, s_obj, by omega, by omega⟩
    · exact .inr ⟨123, [], s_lbrace, by omega, by omega⟩

theorem ppLine_itemLine (n m : Nat) (x : J) (suf : Text) (h : suf.head? ≠ some 58) :
    ppLine n (spaces m ++ firstLineOf x ++ suf) = spaces m ++ firstLineOf x ++ suf := by
  rcases firstLineOf_shape x with ⟨t, e⟩ | ⟨c, r, e, h1, h2⟩ <;> rw [e]
  · -- a string: the scan reaches its closing quote and finds no colon after it
    have e' : spaces m ++ renderStr t ++ suf = spaces m ++ 34 :: (t.flatMap escChar ++ 34 :: suf) := by
      simp [renderStr]
    rw [e']
    unfold ppLine
    split
    · rfl
    · rw [keyEndIndex_quote, keyScan_item _ _ _ h]
  · have := ppLine_plain n m c (r ++ suf) h1 h2
    simpa using this

theorem nl_of_printable {t : Text} (h : ∀ c ∈ t, 32 ≤ c ∧ c ≤ 126) : 10 ∉ t :=
  fun h10 => by have := h 10 h10; omega

theorem nl_renderStr (t : Text) : 10 ∉ renderStr t := nl_of_printable (renderStr_printable t)

theorem nl_spaces (m : Nat) : 10 ∉ spaces m := not_mem_spaces m 10 (by decide)

theorem nl_firstLineOf (x : J) : 10 ∉ firstLineOf x := nl_of_printable (firstLineOf_printable x)

/-! ### the shape of `dumpsLines` -/

/-- the lines of a printed value after the first (`dumpsLines_cons`) -/
def restLines (d : J) (lvl : Nat) : List Text := (dumpsLines d lvl).tail

theorem dumpsLines_cons (d : J) (lvl : Nat) : dumpsLines d lvl = firstLineOf d :: restLines d lvl := by
  cases d with
  | null => simp [restLines, dumpsLines, firstLineOf]
  | bool b => cases b <;> simp [restLines, dumpsLines, firstLineOf]
  | num z => simp [restLines, dumpsLines, firstLineOf]
  | str t => simp [restLines, dumpsLines, firstLineOf]
  | arr l => cases l <;> simp [restLines, dumpsLines, firstLineOf]
  | obj l => cases l <;> simp [restLines, dumpsLines, firstLineOf]

theorem restLines_arr (x : J) (xs : List J) (lvl : Nat) :
    restLines (.arr (x :: xs)) lvl = dumpsItems (x :: xs) (lvl + 1) ++ [indentOf lvl ++ [93]] := by
  simp [restLines, dumpsLines, s_rbracket]

theorem restLines_obj (kv : Text × J) (kvs : List (Text × J)) (lvl : Nat) :
    restLines (.obj (kv :: kvs)) lvl = dumpsMembers (kv :: kvs) (lvl + 1) ++ [indentOf lvl ++ [125]] := by
  simp [restLines, dumpsLines, s_rbrace]

theorem restLines_shape (d : J) (lvl : Nat) :
    restLines d lvl = [] ∨ ∃ inner c, (c = 93 ∨ c = 125) ∧ restLines d lvl = inner ++ [indentOf lvl ++ [c]] := by
  cases d with
  | null => simp [restLines, dumpsLines]
  | bool b => cases b <;> simp [restLines, dumpsLines]
  | num z => simp [restLines, dumpsLines]
  | str t => simp [restLines, dumpsLines]
  | arr l =>
    cases l with
    | nil => simp [restLines, dumpsLines]
    | cons x xs => exact .inr ⟨_, 93, .inl rfl, restLines_arr x xs lvl⟩
  | obj l =>
    cases l with
    | nil => simp [restLines, dumpsLines]
    | cons x xs => exact .inr ⟨_, 125, .inr rfl, restLines_obj x xs lvl⟩

theorem dumpsItems_one (x : J) (lvl : Nat) :
    dumpsItems [x] lvl = (indentOf lvl ++ firstLineOf x) :: restLines x lvl := by
  rw [dumpsItems, dumpsLines_cons]

theorem dumpsItems_more (x y : J) (r : List J) (lvl : Nat) :
    dumpsItems (x :: y :: r) lvl
      = appendLast ((indentOf lvl ++ firstLineOf x) :: restLines x lvl) [44] ++ dumpsItems (y :: r) lvl := by
  rw [dumpsItems, dumpsLines_cons]

theorem dumpsMembers_one (k : Text) (v : J) (lvl : Nat) :
    dumpsMembers [(k, v)] lvl = (indentOf lvl ++ renderStr k ++ 58 :: 32 :: firstLineOf v) :: restLines v lvl := by
  rw [dumpsMembers, dumpsLines_cons, s_colon]; simp

theorem dumpsMembers_more (k : Text) (v : J) (kv : Text × J) (r : List (Text × J)) (lvl : Nat) :
    dumpsMembers ((k, v) :: kv :: r) lvl
      = appendLast ((indentOf lvl ++ renderStr k ++ 58 :: 32 :: firstLineOf v) :: restLines v lvl) [44]
        ++ dumpsMembers (kv :: r) lvl := by
  rw [dumpsMembers, dumpsLines_cons, s_colon]; simp

theorem appendLast_concat (pre : List Text) (l suf : Text) : appendLast (pre ++ [l]) suf = pre ++ [l ++ suf] := by
  simp [appendLast]

/-! ### no line contains a newline -/

def NL (ls : List Text) : Prop := ∀ l ∈ ls, 10 ∉ l

theorem NL_nil : NL [] := by simp [NL]
theorem NL_cons (l : Text) (ls : List Text) : NL (l :: ls) ↔ 10 ∉ l ∧ NL ls := by simp [NL]
theorem NL_append (a b : List Text) : NL (a ++ b) ↔ NL a ∧ NL b := List.forall_mem_append

theorem nl_closing (lvl c : Nat) (hc : c = 93 ∨ c = 125) : 10 ∉ indentOf lvl ++ [c] := by
  have := nl_spaces (4 * lvl)
  simp only [indentOf, List.mem_append, List.mem_singleton, not_or]
  exact ⟨this, by omega⟩

theorem NL_appendLast (ls : List Text) (suf : Text) (h : NL ls) (hs : 10 ∉ suf) : NL (appendLast ls suf) := by
  rcases List.eq_nil_or_concat ls with rfl | ⟨pre, l, rfl⟩
  · simpa [appendLast, NL] using hs
  · rw [List.concat_eq_append] at h ⊢
    rw [appendLast_concat, NL_append, NL_cons]
    rw [NL_append, NL_cons] at h
    exact ⟨h.1, fun hm => (List.mem_append.1 hm).elim h.2.1 hs, h.2.2⟩

theorem NL_itemBlock (x : J) (lvl : Nat) (ih : NL (restLines x lvl)) :
    NL ((indentOf lvl ++ firstLineOf x) :: restLines x lvl) := by
  rw [NL_cons]
  refine ⟨?_, ih⟩
  simp only [List.mem_append, not_or]
  exact ⟨nl_spaces _, nl_firstLineOf x⟩

theorem NL_memberBlock (k : Text) (v : J) (lvl : Nat) (ih : NL (restLines v lvl)) :
    NL ((indentOf lvl ++ renderStr k ++ 58 :: 32 :: firstLineOf v) :: restLines v lvl) := by
  rw [NL_cons]
  refine ⟨?_, ih⟩
  simp only [List.mem_append, List.mem_cons, not_or]
  exact ⟨⟨nl_spaces _, nl_renderStr k⟩, by decide, by decide, nl_firstLineOf v⟩

mutual
  theorem NL_restLines : ∀ (d : J) (lvl : Nat), NL (restLines d lvl)
    | .null, _ => by simp [restLines, dumpsLines, NL]
    | .bool true, _ => by simp [restLines, dumpsLines, NL]
    | .bool false, _ => by simp [restLines, dumpsLines, NL]
    | .num _, _ => by simp [restLines, dumpsLines, NL]
    | .str _, _ => by simp [restLines, dumpsLines, NL]
    | .arr [], _ => by simp [restLines, dumpsLines, NL]
    | .arr (x :: xs), lvl => by
      rw [restLines_arr, NL_append]
      exact ⟨NL_items (x :: xs) (lvl + 1), by rw [NL_cons]; exact ⟨nl_closing lvl 93 (.inl rfl), NL_nil⟩⟩
    | .obj [], _ => by simp [restLines, dumpsLines, NL]
    | .obj (kv :: kvs), lvl => by
      rw [restLines_obj, NL_append]
      exact ⟨NL_members (kv :: kvs) (lvl + 1), by rw [NL_cons]; exact ⟨nl_closing lvl 125 (.inr rfl), NL_nil⟩⟩
  theorem NL_items : ∀ (xs : List J) (lvl : Nat), NL (dumpsItems xs lvl)
    | [], _ => by simp [dumpsItems, NL]
    | [x], lvl => by rw [dumpsItems_one]; exact NL_itemBlock x lvl (NL_restLines x lvl)
    | x :: y :: r, lvl => by
      rw [dumpsItems_more, NL_append]
      exact ⟨NL_appendLast _ _ (NL_itemBlock x lvl (NL_restLines x lvl)) (by decide), NL_items (y :: r) lvl⟩
  theorem NL_members : ∀ (xs : List (Text × J)) (lvl : Nat), NL (dumpsMembers xs lvl)
    | [], _ => by simp [dumpsMembers, NL]
    | [(k, v)], lvl => by rw [dumpsMembers_one]; exact NL_memberBlock k v lvl (NL_restLines v lvl)
    | (k, v) :: kv :: r, lvl => by
      rw [dumpsMembers_more, NL_append]
      exact ⟨NL_appendLast _ _ (NL_memberBlock k v lvl (NL_restLines v lvl)) (by decide), NL_members (kv :: r) lvl⟩
end

/-! ### alignment of the blocks -/

/-- `dumps` puts the comma between two items at the end of the last line of the first: that line must be aligned as it is
    without the comma -/
def CommaOk (n : Nat) (l : Text) : Prop := ppLine n (l ++ [44]) = ppLine n l ++ [44]

theorem pp_closing (n lvl c : Nat) (hc : c = 93 ∨ c = 125) :
    ppLine n (indentOf lvl ++ [c]) = indentOf lvl ++ [c] :=
  ppLine_plain n (4 * lvl) c [] (by omega) (by omega)

theorem CommaOk_closing (n lvl c : Nat) (hc : c = 93 ∨ c = 125) : CommaOk n (indentOf lvl ++ [c]) := by
  unfold CommaOk
  rw [pp_closing n lvl c hc]
  have e : indentOf lvl ++ [c] ++ [44] = spaces (4 * lvl) ++ c :: [44] := by simp [indentOf]
  rw [e]
  exact ppLine_plain n (4 * lvl) c [44] (by omega) (by omega)

theorem jt_map_comma (n : Nat) (pre : List Text) (l : Text) (h : CommaOk n l) :
    jt ((appendLast (pre ++ [l]) [44]).map (ppLine n)) = jt ((pre ++ [l]).map (ppLine n)) ++ [44] := by
  unfold CommaOk at h
  rw [appendLast_concat]
  simp only [List.map_append, List.map_cons, List.map_nil, jt_append, jt_cons, jt_nil]
  rw [h]; simp

theorem jt_block_comma (n : Nat) (a : Text) (d : J) (lvl : Nat) (ha : CommaOk n a) :
    jt ((appendLast (a :: restLines d lvl) [44]).map (ppLine n)) = jt ((a :: restLines d lvl).map (ppLine n)) ++ [44] := by
  rcases restLines_shape d lvl with h | ⟨inner, c, hc, h⟩ <;> rw [h]
  · exact jt_map_comma n [] a ha
  · exact jt_map_comma n (a :: inner) _ (CommaOk_closing n lvl c hc)

theorem pp_itemFirst (n lvl : Nat) (x : J) :
    ppLine n (indentOf lvl ++ firstLineOf x) = indentOf lvl ++ firstLineOf x := by
  have := ppLine_itemLine n (4 * lvl) x [] (by simp)
  simpa [indentOf] using this

theorem CommaOk_itemFirst (n lvl : Nat) (x : J) : CommaOk n (indentOf lvl ++ firstLineOf x) := by
  unfold CommaOk
  rw [pp_itemFirst]
  exact ppLine_itemLine n (4 * lvl) x [44] (by simp)

theorem pp_memberFirst (n lvl : Nat) (k : Text) (v : J) :
    ppLine n (indentOf lvl ++ renderStr k ++ 58 :: 32 :: firstLineOf v)
      = indentOf lvl ++ renderStr k ++ [58] ++ alignGap n lvl k v ++ [32] ++ firstLineOf v := by
  unfold indentOf
  rw [ppLine_member]
  simp [alignGap]

theorem CommaOk_memberFirst (n lvl : Nat) (k : Text) (v : J) :
    CommaOk n (indentOf lvl ++ renderStr k ++ 58 :: 32 :: firstLineOf v) := by
  unfold CommaOk
  have e : (indentOf lvl ++ renderStr k ++ 58 :: 32 :: firstLineOf v) ++ [44]
      = spaces (4 * lvl) ++ renderStr k ++ 58 :: 32 :: (firstLineOf v ++ [44]) := by simp [indentOf]
  rw [e, ppLine_member, pp_memberFirst]
  have hc : (renderStr k ++ (firstLineOf v ++ [44])).contains 123 = (renderStr k ++ firstLineOf v).contains 123 := by
    simp
  rw [hc]
  simp [alignGap, indentOf]

theorem jt_itemBlock (n lvl : Nat) (x : J) :
    jt (((indentOf lvl ++ firstLineOf x) :: restLines x lvl).map (ppLine n))
      = 10 :: (indentOf lvl ++ (firstLineOf x ++ jt ((restLines x lvl).map (ppLine n)))) := by
  rw [List.map_cons, jt_cons, pp_itemFirst]; simp

theorem jt_memberBlock (n lvl : Nat) (k : Text) (v : J) :
    jt (((indentOf lvl ++ renderStr k ++ 58 :: 32 :: firstLineOf v) :: restLines v lvl).map (ppLine n))
      = 10 :: (indentOf lvl ++ renderStr k ++ [58] ++ alignGap n lvl k v ++ [32]
          ++ (firstLineOf v ++ jt ((restLines v lvl).map (ppLine n)))) := by
  rw [List.map_cons, jt_cons, pp_memberFirst]; simp

/-! ### the structural induction -/

mutual
  theorem align_restLines (n : Nat) : ∀ (d : J) (lvl : Nat),
      firstLineOf d ++ jt ((restLines d lvl).map (ppLine n)) = aText n d lvl
    | .null, _ => by simp [restLines, dumpsLines, firstLineOf, aText, jt]
    | .bool true, _ => by simp [restLines, dumpsLines, firstLineOf, aText, jt]
    | .bool false, _ => by simp [restLines, dumpsLines, firstLineOf, aText, jt]
    | .num _, _ => by simp [restLines, dumpsLines, firstLineOf, aText, jt]
    | .str _, _ => by simp [restLines, dumpsLines, firstLineOf, aText, jt]
    | .arr [], _ => by simp [restLines, dumpsLines, firstLineOf, aText, jt]
    | .arr (x :: xs), lvl => by
      rw [restLines_arr, List.map_append, jt_append, align_items n (x :: xs) (lvl + 1) (by simp)]
      simp only [List.map_cons, List.map_nil, jt_cons, jt_nil, pp_closing n lvl 93 (.inl rfl)]
      simp [firstLineOf, aText, s_lbracket]
    | .obj [], _ => by simp [restLines, dumpsLines, firstLineOf, aText, jt]
    | .obj (kv :: kvs), lvl => by
      rw [restLines_obj, List.map_append, jt_append, align_members n (kv :: kvs) (lvl + 1) (by simp)]
      simp only [List.map_cons, List.map_nil, jt_cons, jt_nil, pp_closing n lvl 125 (.inr rfl)]
      simp [firstLineOf, aText, s_lbrace]
  theorem align_items (n : Nat) : ∀ (xs : List J) (lvl : Nat), xs ≠ [] →
      jt ((dumpsItems xs lvl).map (ppLine n)) = 10 :: aItems n xs lvl
    | [], _, h => absurd rfl h
    | [x], lvl, _ => by
      rw [dumpsItems_one, jt_itemBlock, align_restLines n x lvl]; simp [aItems]
    | x :: y :: r, lvl, _ => by
      rw [dumpsItems_more, List.map_append, jt_append, jt_block_comma n _ x lvl (CommaOk_itemFirst n lvl x),
        jt_itemBlock, align_restLines n x lvl, align_items n (y :: r) lvl (by simp)]
      simp [aItems]
  theorem align_members (n : Nat) : ∀ (xs : List (Text × J)) (lvl : Nat), xs ≠ [] →
      jt ((dumpsMembers xs lvl).map (ppLine n)) = 10 :: aMembers n xs lvl
    | [], _, h => absurd rfl h
    | [(k, v)], lvl, _ => by
      rw [dumpsMembers_one, jt_memberBlock, align_restLines n v lvl]; simp [aMembers]
    | (k, v) :: kv :: r, lvl, _ => by
      rw [dumpsMembers_more, List.map_append, jt_append, jt_block_comma n _ v lvl (CommaOk_memberFirst n lvl k v),
        jt_memberBlock, align_restLines n v lvl, align_members n (kv :: r) lvl (by simp)]
      simp [aMembers]
end

/-! ### the aligned dump -/

theorem prettyPrint_dumps (n : Nat) (d : J) : prettyPrint n (dumps d) = aText n d 0 := by
  unfold prettyPrint dumps
  rw [dumpsLines_cons, joinWith_cons, splitNL_join _ _ (nl_firstLineOf d) (NL_restLines d 0), List.map_cons,
    joinWith_cons]
  have h := pp_itemFirst n 0 d
  simp only [indentOf, spaces, Nat.mul_zero, List.replicate_zero, List.nil_append] at h
  rw [h]
  exact align_restLines n d 0

/-- `json_string` of a decoded, selected PEL is not `""`: the tests `if json_string:` / `len(json_string) != 0` of the source
    separate exactly the model's `.doc` outcome from the others -/
theorem prettyPrint_dumps_ne_nil (n : Nat) (d : J) : prettyPrint n (dumps d) ≠ [] := by
  obtain ⟨c, r, e, _⟩ := aText_head n d 0
  rw [prettyPrint_dumps, e]
  exact List.cons_ne_nil c r

theorem prettyPrint_dumps_isEmpty (n : Nat) (d : J) : (prettyPrint n (dumps d)).isEmpty = false := by
  simpa using prettyPrint_dumps_ne_nil n d

theorem prettyPrint_dumps_length (n : Nat) (d : J) : ((prettyPrint n (dumps d)).length != 0) = true := by
  simpa using prettyPrint_dumps_ne_nil n d

theorem prettyPrint_dumps_length_eq (n : Nat) (d : J) : ((prettyPrint n (dumps d)).length == 0) = false := by
  simpa using prettyPrint_dumps_ne_nil n d

end Pel
