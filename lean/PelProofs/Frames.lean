import PelModel.Reader
import PelModel.Sections
import PelModel.TransSrc
import PelProofs.Basic
/-
  `Frames r a x`: the reader `r` consumes exactly the bytes `a` (for every continuation) yielding `x`, and fails
  on every proper prefix of `a`.  Closed under `bind`; primitive readers frame their encodings.
  One derivation per section gives both C01 (exact framing) and C05 (prefix rejection).

  `FramesTo r a r'` is the same for a reader that is not finished after `a` but goes on as `r'`; `Frames r a x` is
  `FramesTo r a (pure x)`.  A reader that looks ahead (`peek2`, `remaining`) frames nothing, since what it does depends on
  what follows; it is put behind a framed prefix with `FramesTo`.  What any reader does on cut input is said by `Cut Q r a`
  (`Strict` is the `Q` "fails", `FailsOr P` the `Q` of a reader that may also stop early); `Cut.append` carries it over a prefix.
-/
namespace Pel

structure Frames {α} (r : Rd α) (a : Bytes) (x : α) : Prop where
  exact : ∀ rest, r (a ++ rest) = .ok (x, rest)
  strict : ∀ k, k < a.length → ∃ e, r (a.take k) = .error e

def Strict {α} (r : Rd α) (a : Bytes) : Prop := ∀ k, k < a.length → ∃ e, r (a.take k) = .error e

/-- The outcome of `r` on every proper prefix of `a` satisfies `Q`.  `Strict r a`, like the field `Frames.strict`, unfolds to
    `Cut (∃ e, · = .error e) r a`. -/
def Cut {α} (Q : Except Err (α × Bytes) → Prop) (r : Rd α) (a : Bytes) : Prop := ∀ k, k < a.length → Q (r (a.take k))

/-- the outcome of a reader that looks ahead, on cut input: it fails, or it stops early with a value and a rest that satisfy `P` -/
def FailsOr {α} (P : α → Bytes → Prop) (o : Except Err (α × Bytes)) : Prop :=
  (∃ e, o = .error e) ∨ ∃ x st, o = .ok (x, st) ∧ P x st

structure FramesTo {α} (r : Rd α) (a : Bytes) (r' : Rd α) : Prop where
  exact : ∀ rest, r (a ++ rest) = r' rest
  strict : Strict r a

theorem bind_ok {α β} (r : Rd α) (f : α → Rd β) (st st' : Bytes) (x : α) (h : r st = .ok (x, st')) :
    (r >>= f) st = f x st' := by
  rw [stateT_bind_run, h]

theorem bind_err {α β} (r : Rd α) (f : α → Rd β) (st : Bytes) (e : Err) (h : r st = .error e) :
    (r >>= f) st = .error e := by
  rw [stateT_bind_run, h]

theorem bind_ok_inv {α β} {r : Rd α} {f : α → Rd β} {st : Bytes} {y : β × Bytes} (h : (r >>= f) st = .ok y) :
    ∃ x st', r st = .ok (x, st') ∧ f x st' = .ok y := by
  cases h1 : r st with
  | error e => rw [bind_err r f st e h1] at h; cases h
  | ok p => exact ⟨p.1, p.2, rfl, by rwa [bind_ok r f st p.2 p.1 h1] at h⟩

theorem bind_fails {α β} {r : Rd α} {st : Bytes} (f : α → Rd β) (h : ∃ e, r st = .error e) : ∃ e, (r >>= f) st = .error e :=
  h.imp fun e he => bind_err r f st e he

/-! ### cut input -/

theorem Strict.nil {α} (r : Rd α) : Strict r [] := fun k h => by simp at h

theorem Frames.toStrict {α} {r : Rd α} {a : Bytes} {x : α} (h : Frames r a x) : Strict r a := h.strict

theorem Strict.bind {α β} {r : Rd α} {a : Bytes} (h : Strict r a) (f : α → Rd β) : Strict (r >>= f) a :=
  fun k hk => bind_fails f (h k hk)

theorem Strict.cut {α} {Q : Except Err (α × Bytes) → Prop} {r : Rd α} {a : Bytes} (h : Strict r a) (hQ : ∀ e, Q (.error e)) :
    Cut Q r a :=
  fun k hk => (h k hk).elim fun e he => he ▸ hQ e

theorem take_append_cases (a b : Bytes) (k : Nat) (hk : k < (a ++ b).length) :
    (k < a.length ∧ (a ++ b).take k = a.take k) ∨
    (∃ j, j < b.length ∧ k = a.length + j ∧ (a ++ b).take k = a ++ b.take j) := by
  rw [List.take_append]
  by_cases h : k < a.length
  · exact .inl ⟨h, by simp [Nat.sub_eq_zero_of_le (Nat.le_of_lt h)]⟩
  · exact .inr ⟨k - a.length, by simp at hk; omega, by omega, by simp [List.take_of_length_le (Nat.le_of_not_lt h)]⟩

theorem Cut.append {α} {Q : Except Err (α × Bytes) → Prop} {r r' : Rd α} {a b : Bytes} (he : ∀ rest, r (a ++ rest) = r' rest)
    (ha : Cut Q r a) (hb : Cut Q r' b) : Cut Q r (a ++ b) := by
  intro k hk
  rcases take_append_cases a b k hk with ⟨hlt, e⟩ | ⟨j, hj, -, e⟩
  · rw [e]; exact ha k hlt
  · rw [e, he]; exact hb j hj

theorem FailsOr.bind {α β} {P : α → Bytes → Prop} {Q : Except Err (β × Bytes) → Prop} {r : Rd α} {st : Bytes} (f : α → Rd β)
    (h : FailsOr P (r st)) (hQ : ∀ e, Q (.error e)) (hf : ∀ x st', P x st' → Q (f x st')) : Q ((r >>= f) st) := by
  rcases h with ⟨e, he⟩ | ⟨x, st', he, hP⟩
  · rw [bind_err r f st e he]; exact hQ e
  · rw [bind_ok r f st st' x he]; exact hf x st' hP

/-! ### a framed prefix and what follows it -/

theorem FramesTo.refl {α} (r : Rd α) : FramesTo r [] r := ⟨fun _ => rfl, Strict.nil r⟩

theorem Frames.framesTo {α} {r : Rd α} {a : Bytes} {x : α} (h : Frames r a x) : FramesTo r a (Pure.pure x) :=
  ⟨h.exact, h.strict⟩

theorem FramesTo.cut {α} {Q : Except Err (α × Bytes) → Prop} {r r' : Rd α} {a b : Bytes} (h : FramesTo r a r')
    (hQ : ∀ e, Q (.error e)) (hc : Cut Q r' b) : Cut Q r (a ++ b) :=
  Cut.append h.exact (h.strict.cut hQ) hc

theorem FramesTo.cast {α} {r r' : Rd α} {a b : Bytes} (h : FramesTo r a r') (hb : a = b) : FramesTo r b r' := hb ▸ h

theorem FramesTo.strict_append {α} {r r' : Rd α} {a b : Bytes} (h : FramesTo r a r') (hs : Strict r' b) :
    Strict r (a ++ b) :=
  Cut.append (Q := fun o => ∃ e, o = .error e) h.exact h.strict hs

theorem FramesTo.trans {α} {r r' r'' : Rd α} {a b : Bytes} (h : FramesTo r a r') (h' : FramesTo r' b r'') :
    FramesTo r (a ++ b) r'' :=
  ⟨fun rest => by rw [List.append_assoc, h.exact, h'.exact], h.strict_append h'.strict⟩

theorem Frames.bindTo {α β} {r : Rd α} {a : Bytes} {x : α} (hr : Frames r a x) (f : α → Rd β) :
    FramesTo (r >>= f) a (f x) :=
  ⟨fun rest => bind_ok r f _ _ x (hr.exact rest), hr.toStrict.bind f⟩

theorem FramesTo.bind {α β} {r : Rd α} {f : α → Rd β} {a b : Bytes} {x : α} {r' : Rd β}
    (hr : Frames r a x) (hf : FramesTo (f x) b r') : FramesTo (r >>= f) (a ++ b) r' :=
  (hr.bindTo f).trans hf

theorem FramesTo.frames {α} {r r' : Rd α} {a b : Bytes} {y : α} (h : FramesTo r a r') (h' : Frames r' b y) :
    Frames r (a ++ b) y :=
  have := h.trans h'.framesTo
  ⟨this.exact, this.strict⟩

/-! ### closure of `Frames` -/

theorem Frames.pure {α} (x : α) : Frames (Pure.pure x : Rd α) [] x :=
  ⟨fun _ => rfl, fun k h => by simp at h⟩

theorem Frames.bind {α β} {r : Rd α} {f : α → Rd β} {a b : Bytes} {x : α} {y : β}
    (hr : Frames r a x) (hf : Frames (f x) b y) : Frames (r >>= f) (a ++ b) y :=
  (hr.bindTo f).frames hf

theorem Frames.congr {α} {r r' : Rd α} {a : Bytes} {x : α} (h : ∀ st, r st = r' st) (hf : Frames r a x) : Frames r' a x :=
  ⟨fun rest => by rw [← h]; exact hf.exact rest, fun k hk => by rw [← h]; exact hf.strict k hk⟩

theorem Frames.cast {α} {r : Rd α} {a b : Bytes} {x y : α} (hf : Frames r a x) (hb : a = b) (hx : x = y) : Frames r b y :=
  hb ▸ hx ▸ hf

/-- the result handed through `g`: the decoders convert, strip and wrap what they read this way -/
theorem Frames.map {α β} {r : Rd α} {a : Bytes} {x : α} (h : Frames r a x) (g : α → β) :
    Frames (r >>= fun x => Pure.pure (g x)) a (g x) :=
  Frames.cast (Frames.bind h (Frames.pure _)) (List.append_nil _) rfl

theorem Frames.ite {α} {c : Prop} [Decidable c] {r1 r2 : Rd α} {a : Bytes} {x : α}
    (h1 : c → Frames r1 a x) (h2 : ¬c → Frames r2 a x) : Frames (if c then r1 else r2) a x := by
  by_cases hc : c
  · rw [if_pos hc]; exact h1 hc
  · rw [if_neg hc]; exact h2 hc

theorem Frames.iteS {α} (c : Prop) [Decidable c] {r1 r2 : Rd α} {a : Bytes} {x : α}
    (h1 : c → Frames r1 a x) (h2 : ¬ c → Frames r2 a x) : Frames (if c then r1 else r2) a x :=
  Frames.ite h1 h2

theorem ite_bind {α β} (c : Prop) [Decidable c] (r1 r2 : Rd α) (k : α → Rd β) :
    (if c then r1 >>= k else r2 >>= k) = ((if c then r1 else r2) >>= k) :=
  (apply_ite (· >>= k) c r1 r2).symm

/-- the shape `do`-notation gives to `let x ← if c then r1 else r2; rest` (a join point applied in both branches) -/
theorem FramesTo.iteBind {α β} {c : Prop} [Decidable c] {r1 r2 : Rd α} {f : α → Rd β} {a b : Bytes} {x : α} {r' : Rd β}
    (h : Frames (if c then r1 else r2) a x) (hf : FramesTo (f x) b r') :
    FramesTo (if c then r1 >>= f else r2 >>= f) (a ++ b) r' :=
  ite_bind c r1 r2 f ▸ FramesTo.bind h hf

theorem Frames.iteBind {α β} {c : Prop} [Decidable c] {r1 r2 : Rd α} {f : α → Rd β} {a b : Bytes} {x : α} {y : β}
    (h : Frames (if c then r1 else r2) a x) (hf : Frames (f x) b y) :
    Frames (if c then r1 >>= f else r2 >>= f) (a ++ b) y :=
  ite_bind c r1 r2 f ▸ Frames.bind h hf

/-- an optional field: absent from the bytes when `c` fails, and then defaulted to `d` -/
theorem Frames.opt {α} {c : Prop} [Decidable c] {r : Rd α} {b : Bytes} {x d : α}
    (h1 : c → Frames r b x) (h0 : ¬c → b = [] ∧ d = x) : Frames (if c then r else Pure.pure d) b x :=
  Frames.ite h1 fun h => by obtain ⟨rfl, rfl⟩ := h0 h; exact Frames.pure _

/-! ### the primitive readers -/

theorem getMem_split {n : Nat} {st m r : Bytes} (h : getMem n st = .ok (m, r)) : st = m ++ r ∧ m.length = n ∧ 0 < n := by
  unfold getMem at h
  split at h
  · cases h
  · split at h
    · cases h
      exact ⟨(List.take_append_drop n st).symm, by rw [List.length_take]; omega, by omega⟩
    · cases h

theorem Frames.getMem (a : Bytes) (h : 0 < a.length) : Frames (getMem a.length) a a := by
  constructor
  · intro rest; simp [Pel.getMem, Nat.ne_of_gt h]
  · intro k hk
    refine ⟨.range, ?_⟩
    simp [Pel.getMem, Nat.ne_of_gt h, List.length_take]; omega

theorem Frames.getMemN (n : Nat) (a : Bytes) (hl : a.length = n) (h : 0 < n) : Frames (Pel.getMem n) a a := by
  subst hl; exact Frames.getMem a h

theorem getMem_bind {α} (f : Bytes → Rd α) (data rest : Bytes) (h : 1 ≤ data.length) :
    (Pel.getMem data.length >>= f) (data ++ rest) = f data rest :=
  ((Frames.getMem data h).bindTo f).exact rest

theorem Frames.getInt (n v : Nat) (hn : 0 < n) (h : v < 256 ^ n) : Frames (getInt n) (toBE n v) v :=
  Frames.cast ((Frames.getMemN n (toBE n v) (toBE_length n v) hn).map fromBE) rfl (fromBE_toBE n v h)

/-- a single byte given literally (as the encoders write `[b]`) -/
theorem Frames.getInt1 (b : Nat) (h : b < 256) : Frames (Pel.getInt 1) [b] b := by
  have := Frames.getInt 1 b (by omega) (by omega)
  have e : toBE 1 b = [b] := by simp [toBE]; omega
  rw [e] at this; exact this

theorem getInt2_lit (a b : Nat) (ha : a < 256) (hb : b < 256) : Frames (getInt 2) [a, b] (a * 256 + b) := by
  have := Frames.getInt 2 (a * 256 + b) (by omega) (by omega)
  have e : toBE 2 (a * 256 + b) = [a, b] := by
    simp only [toBE, List.nil_append, List.cons_append, List.cons.injEq, and_true]
    omega
  rwa [e] at this

theorem Frames.getInts (w : Nat) (hw : 0 < w) (vs : List Nat) (h : ∀ v ∈ vs, v < 256 ^ w) :
    Frames (Pel.getInts w vs.length) (vs.flatMap (toBE w)) vs := by
  induction vs with
  | nil => exact Frames.pure []
  | cons a r ih =>
    refine Frames.cast (Frames.bind (Frames.getInt w a hw (h a (by simp))) <|
      Frames.bind (ih fun v hv => h v (by simp [hv])) <| Frames.pure _) ?_ rfl
    simp

theorem Frames.rdRepeat {α β} {r : Rd β} (enc : α → Bytes) (f : α → β) (l : List α) (h : ∀ x ∈ l, Frames r (enc x) (f x)) :
    Frames (Pel.rdRepeat r l.length) (l.flatMap enc) (l.map f) := by
  induction l with
  | nil => exact Frames.pure []
  | cons x l ih =>
    refine Frames.cast (Frames.bind (h x (by simp)) <| Frames.bind (ih fun y hy => h y (by simp [hy])) <| Frames.pure _) ?_ rfl
    simp

end Pel
