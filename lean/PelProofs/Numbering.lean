import PelModel.PelSpec
import PelProofs.JsonObj
/-
  The numbering of section names: `numberNames` (PelModel/PelSpec.lean, what must be displayed), `countName` and the counters that
  `buildOutput` keeps (PelModel/Pel.lean, what the code does); `buildOutput_eq`: the two agree.
-/
namespace Pel

theorem countName_eq (name : Text) (l : List (Text × J)) :
    countName name l = ((l.map (·.1)).filter (· == name)).length := by
  simp [countName, List.filter_map, Function.comp_def]

theorem countName_snoc (name : Text) (pre : List (Text × J)) (n : Text) (j : J) :
    countName name (pre ++ [(n, j)]) = countName name pre + if n = name then 1 else 0 := by
  by_cases h : n = name <;> simp [countName, h]

/-- the count `buildOutput` keeps for `name` -/
def counterOf (counters : List (Text × Nat)) (name : Text) : Nat := ((counters.find? (fun p => p.1 == name)).map (·.2)).getD 0

theorem counterOf_update (counters : List (Text × Nat)) (n name : Text) (v : Nat) :
    counterOf ((n, v) :: counters.filter (fun p => p.1 != n)) name = if n = name then v else counterOf counters name := by
  unfold counterOf
  rw [List.find?_cons]
  by_cases h : n = name
  · simp [h]
  · have hb : (n == name) = false := by simpa using h
    simp only [hb, if_neg h, List.find?_filter]
    congr 3; funext p
    by_cases hp : p.1 = name <;> simp [hp, Ne.symm h]

theorem countName_pos_of_mem {all : List (Text × J)} {x : Text × J} (h : x ∈ all) : countName x.1 all ≠ 0 :=
  Nat.ne_of_gt (List.length_pos_of_mem (List.mem_filter.2 ⟨h, by simp⟩))

theorem buildOutputGo_cons (all : List (Text × J)) (p : Text × J) (r : List (Text × J)) (counters : List (Text × Nat)) (out : List (Text × J)) :
    buildOutputGo all (p :: r) counters out =
      if countName p.1 all = 1 then buildOutputGo all r counters (objSet out p.1 p.2)
      else buildOutputGo all r ((p.1, counterOf counters p.1 + 1) :: counters.filter (fun q => q.1 != p.1))
             (objSet out (p.1 ++ [32] ++ natDec (counterOf counters p.1)) p.2) := by
  obtain ⟨name, j⟩ := p
  simp only [buildOutputGo, counterOf]

theorem numberNames_cons (A : List Text) (n : Text) (R : List Text) :
    numberNames (A ++ n :: R) (n :: R) =
      (if ((A ++ n :: R).filter (· == n)).length = 1 then n
       else n ++ [32] ++ natDec ((A.filter (· == n)).length)) :: numberNames (A ++ n :: R) R := by
  have : (A ++ n :: R).length - (n :: R).length = A.length := by simp
  simp only [numberNames, this, List.take_left']

theorem numberNames_length (all l : List Text) : (numberNames all l).length = l.length := by
  induction l with
  | nil => simp [numberNames]
  | cons a l ih => simp [numberNames, ih]

theorem numberNames_getElem? (l : List Text) : ∀ (pre : List Text) (i : Nat) (h : i < l.length),
    (numberNames (pre ++ l) l)[i]? =
      some (if ((pre ++ l).filter (· == l[i])).length = 1 then l[i]
            else l[i] ++ [32] ++ natDec ((pre ++ l.take i).filter (· == l[i])).length) := by
  induction l with
  | nil => intro pre i h; simp at h
  | cons n r ih =>
    intro pre i h
    rw [numberNames_cons]
    cases i with
    | zero => simp
    | succ i =>
      have h' : i < r.length := by simpa using h
      have e : pre ++ n :: r = (pre ++ [n]) ++ r := by simp
      rw [List.getElem?_cons_succ, e, ih (pre ++ [n]) i h']
      simp

/-- The loop of `buildOutput` files (`d[k] = v`) every section under its numbered name: its counters hold, for each name that is
    numbered, how often the name has occurred so far.  That the keys are new plays no part in this. -/
theorem buildOutputGo_eq (all l : List (Text × J)) : ∀ (pre : List (Text × J)) (counters : List (Text × Nat)) (out : List (Text × J)),
    all = pre ++ l → (∀ name, countName name all ≠ 1 → counterOf counters name = countName name pre) →
    buildOutputGo all l counters out = objUpdate out ((numberNames (all.map (·.1)) (l.map (·.1))).zip (l.map (·.2))) := by
  induction l with
  | nil => intro pre counters out _ _; rfl
  | cons a r ih =>
    obtain ⟨n, j⟩ := a
    intro pre counters out hall hc
    have hmap : all.map (·.1) = pre.map (·.1) ++ n :: r.map (·.1) := by simp [hall]
    have hnext : all = (pre ++ [(n, j)]) ++ r := by simp [hall]
    rw [List.map_cons, List.map_cons, hmap, numberNames_cons, ← hmap, ← countName_eq, ← countName_eq, List.zip_cons_cons,
      objUpdate_cons, buildOutputGo_cons]
    by_cases h1 : countName n all = 1
    · simp only [h1, if_true]
      refine ih _ _ _ hnext fun name hne => ?_
      rw [countName_snoc, if_neg (fun h : n = name => hne (h ▸ h1)), hc name hne]; rfl
    · simp only [h1, if_false, hc n h1]
      refine ih _ _ _ hnext fun name hne => ?_
      rw [countName_snoc, counterOf_update]
      split
      · rename_i h; rw [h]
      · exact hc name hne

/-- `buildOutput`'s two-pass counter is the declarative numbering; numbered names that are new and distinct are appended -/
theorem buildOutput_eq (secs : List (Text × J)) (out : List (Text × J))
    (hnodup : ((out.map (·.1)) ++ numberNames (secs.map (·.1)) (secs.map (·.1))).Nodup) :
    buildOutput secs out = out ++ (numberNames (secs.map (·.1)) (secs.map (·.1))).zip (secs.map (·.2)) := by
  rw [buildOutput, buildOutputGo_eq secs secs [] [] out rfl (fun name _ => by simp [counterOf, countName]), objUpdate_fresh]
  rw [List.map_append, List.map_fst_zip (by rw [numberNames_length, List.length_map, List.length_map]; exact Nat.le_refl _)]
  exact hnodup

end Pel
