import PelModel.Top
import PelProofs.Main
import PelProofs.Clean
import PelProofs.FileList
/-
  Lemmas about the composed command `runMain` (PelModel/Top.lean).  A command-level theorem starts from hypotheses about the COMMAND
  LINE, reaches a rule of `Chain` (`chain_list` …), rewrites the command to the mode function that rule names (`runMain_of_chain`)
  and goes on with that function; what no action changes is `runAction_world_readonly`.  What `-j` may do to a directory is `DirAdds`;
  when `-f … --clean` removes its file is said in the terms of the C12 trace (`fileBranch_clean_file`, `cleanFileTrace_remove_mem`); the
  look-up modes see the `Config` only through `considerPEL` (`runAction_lookup_congr`).  Last: the worlds of the non-vacuity examples.
-/
namespace Pel

/-! ### what the world answers to `isdir` / `isfile` -/

theorem fsView_isDir_path {w : World} {a : Args} {p : Text} (hp : tv a.path = some p) :
    (w.fsView a).isDir p = w.pathIsDir := by
  simp [World.fsView, hp]

theorem fsView_isDir_other {w : World} {a : Args} {o : Text} (h : tv a.path ≠ some o) :
    (w.fsView a).isDir o = w.out.isSome := by
  simp [World.fsView, h]

theorem fsView_isFile (w : World) (a : Args) (f : Text) : (w.fsView a).isFile f = w.exclude.isSome := rfl

theorem fsView_dir (w : World) (d : Dir) (a : Args) : ({ w with dir := d } : World).fsView a = w.fsView a := rfl

/-! ### the whole command from a `Chain` derivation -/

theorem runMainF_of_chain {fault : Nat → Bool} {env : Env} {a : Args} {w : World} {act : Action} {lk : Bool}
    (h : Chain (w.fsView a) a act lk) :
    runMainF fault env a w = runAction fault (env.withCfg (cfgOf a lk)) w act (cfgOf a lk) := by
  unfold runMainF
  simp only [dispatch_of_chain h]

theorem runMain_of_chain {env : Env} {a : Args} {w : World} {act : Action} {lk : Bool}
    (h : Chain (w.fsView a) a act lk) :
    runMain env a w = runAction noFault (env.withCfg (cfgOf a lk)) w act (cfgOf a lk) :=
  runMainF_of_chain h

/-! ### the frame of every action -/

theorem fileBranch_frame (fault : Nat → Bool) (env : Env) (c : MainCfg) (act : Action) (p : Text) (w : World) :
    (fileBranch fault env c act p w).world = w ∨
      ((∃ printed q, act.afterPrint printed = some q) ∧ (fileBranch fault env c act p w).world = { w with file := none }) := by
  unfold fileBranch
  -- no file; a bad header; then `os.remove` is called (and faults or not) or is not called
  split
  · exact .inl rfl
  split
  · exact .inl rfl
  simp only
  split
  next q hq =>
    split
    · exact .inl rfl
    · exact .inr ⟨⟨_, q, hq⟩, rfl⟩
  · exact .inl rfl

theorem runAction_world_readonly (fault : Nat → Bool) (env : Env) (w : World) (act : Action) (c : MainCfg)
    (h : act.mayRemove = false) (hj : ∀ p o, act ≠ .jsonMode p o false) :
    (runAction fault env w act c).world = w := by
  cases act with
  | fileMode p clean =>
    cases clean with
    | true => simp [Action.mayRemove] at h
    | false => exact (fileBranch_frame fault env c _ p w).resolve_right fun ⟨⟨_, _, hq⟩, _⟩ => by simp [Action.afterPrint] at hq
  | jsonMode p o clean =>
    cases clean with
    | true => simp [Action.mayRemove] at h
    | false => exact absurd rfl (hj p o)
  | deleteMode _ _ => simp [Action.mayRemove] at h
  | deleteAllMode _ => simp [Action.mayRemove] at h
  | _ => rfl

/-! ### files written and removed by the `-j` branch -/

theorem removeNames_nil (d : Dir) : removeNames d [] = d := by
  simp [removeNames]

theorem mem_removeNames_iff {d : Dir} {names : List Text} {g : FileEntry} :
    g ∈ removeNames d names ↔ g ∈ d ∧ g.name ∉ names := by
  unfold removeNames
  simp [List.mem_filter]

theorem mem_removeNames {d : Dir} {names : List Text} {g : FileEntry} (h : g ∈ removeNames d names) : g ∈ d :=
  (mem_removeNames_iff.1 h).1

theorem writeFiles_cons (d : Dir) (p : Text × Bytes) (l : List (Text × Bytes)) :
    writeFiles d (p :: l) = writeFiles (writeFile d p.1 p.2) l := rfl

theorem writeFiles_nil (d : Dir) : writeFiles d [] = d := rfl

/-- `D'` is `D` with files added or overwritten in place, every one of them a `P`: nothing disappears, what keeps its name keeps its content
    or is a `P`, and what is new is a `P` -/
def DirAdds (P : FileEntry → Prop) (D D' : Dir) : Prop :=
  (∀ f ∈ D, ∃ g ∈ D', g.name = f.name ∧ (g = f ∨ P g)) ∧ ∀ g ∈ D', g ∈ D ∨ P g

theorem DirAdds.refl (P : FileEntry → Prop) (D : Dir) : DirAdds P D D :=
  ⟨fun f hf => ⟨f, hf, rfl, .inl rfl⟩, fun _ hg => .inl hg⟩

theorem DirAdds.trans {P : FileEntry → Prop} {D D' D'' : Dir} (h : DirAdds P D D') (h' : DirAdds P D' D'') : DirAdds P D D'' := by
  constructor
  · intro f hf
    obtain ⟨g, hg, hn, hor⟩ := h.1 f hf
    obtain ⟨g', hg', hn', hor'⟩ := h'.1 g hg
    exact ⟨g', hg', hn'.trans hn, hor'.elim (fun e => e ▸ hor) .inr⟩
  · intro g hg
    exact (h'.2 g hg).elim (h.2 g) .inr

theorem DirAdds.writeFile {P : FileEntry → Prop} (d : Dir) {n : Text} {b : Bytes} (hP : P { name := n, data := b }) :
    DirAdds P d (writeFile d n b) := by
  unfold Pel.writeFile
  split
  · constructor
    · intro f hf
      by_cases hn : f.name = n
      · exact ⟨{ f with data := b }, List.mem_map.2 ⟨f, hf, by simp [hn]⟩, rfl, .inr (hn ▸ hP)⟩
      · exact ⟨f, List.mem_map.2 ⟨f, hf, by simp [hn]⟩, rfl, .inl rfl⟩
    · intro g hg
      obtain ⟨f, hf, rfl⟩ := List.mem_map.1 hg
      split
      · rename_i hn
        exact .inr ((show f.name = n by simpa using hn) ▸ hP)
      · exact .inl hf
  · exact ⟨fun f hf => ⟨f, List.mem_append_left _ hf, rfl, .inl rfl⟩,
      fun g hg => (List.mem_append.1 hg).imp_right fun h => by rw [List.mem_singleton.1 h]; exact hP⟩

theorem DirAdds.writeFiles {P : FileEntry → Prop} {l : List (Text × Bytes)} (hP : ∀ q ∈ l, P { name := q.1, data := q.2 }) (d : Dir) :
    DirAdds P d (writeFiles d l) := by
  induction l generalizing d with
  | nil => exact .refl P d
  | cons p l ih =>
    exact (DirAdds.writeFile d (hP p List.mem_cons_self)).trans (ih (fun q hq => hP q (List.mem_cons_of_mem _ hq)) _)

/-! ### reaching a mode from hypotheses about the command line -/

section reach
variable {a : Args} {w : World} {p : Text}

theorem chain_list (hh : a.NoHigherMode) (hp : tv a.path = some p) (hd : w.pathIsDir = true) (hl : a.list = true) :
    Chain (w.fsView a) a (.listMode p) false :=
  .list hh.file hp ((fsView_isDir_path hp).trans hd) hh.json hh.pelID hh.bmcID hh.plid hh.src hh.srcExclude hl

theorem chain_count (hh : a.NoHigherMode) (hp : tv a.path = some p) (hd : w.pathIsDir = true) (hl : a.list = false)
    (hn : a.count = true) : Chain (w.fsView a) a (.countMode p) false :=
  .count hh.file hp ((fsView_isDir_path hp).trans hd) hh.json hh.pelID hh.bmcID hh.plid hh.src hh.srcExclude hl hn

theorem chain_all (hh : a.NoHigherMode) (hp : tv a.path = some p) (hd : w.pathIsDir = true) (hl : a.list = false)
    (hn : a.count = false) (ha : a.all = true) : Chain (w.fsView a) a (.allMode p) false :=
  .all hh.file hp ((fsView_isDir_path hp).trans hd) hh.json hh.pelID hh.bmcID hh.plid hh.src hh.srcExclude hl hn ha

theorem chain_delete {e : Text} (hh : a.NoHigherMode) (hnd : a.NoDisplayMode) (hp : tv a.path = some p) (hd : w.pathIsDir = true)
    (he : tv a.delete = some e) : Chain (w.fsView a) a (.deleteMode p e) false :=
  .delete hh.file hp ((fsView_isDir_path hp).trans hd) hh.json hh.pelID hh.bmcID hh.plid hh.src hh.srcExclude
    hnd.list hnd.count hnd.all he

theorem chain_deleteAll (hh : a.NoHigherMode) (hnd : a.NoDisplayMode) (hp : tv a.path = some p) (hd : w.pathIsDir = true)
    (he : tv a.delete = none) (hD : a.deleteAll = true) : Chain (w.fsView a) a (.deleteAllMode p) false :=
  .deleteAll hh.file hp ((fsView_isDir_path hp).trans hd) hh.json hh.pelID hh.bmcID hh.plid hh.src hh.srcExclude
    hnd.list hnd.count hnd.all he hD

end reach

theorem Chain.delete_inv {fs : FsView} {a : Args} {lk : Bool} {d e : Text} (h : Chain fs a (.deleteMode d e) lk) :
    a.NoHigherMode ∧ a.NoDisplayMode ∧ tv a.path = some d ∧ fs.isDir d = true ∧ tv a.delete = some e := by
  cases h; exact ⟨⟨‹_›, ‹_›, ‹_›, ‹_›, ‹_›, ‹_›, ‹_›⟩, ⟨‹_›, ‹_›, ‹_›⟩, ‹_›, ‹_›, ‹_›⟩

theorem Chain.deleteAll_inv {fs : FsView} {a : Args} {lk : Bool} {d : Text} (h : Chain fs a (.deleteAllMode d) lk) :
    a.NoHigherMode ∧ a.NoDisplayMode ∧ tv a.path = some d ∧ fs.isDir d = true ∧ tv a.delete = none ∧ a.deleteAll = true := by
  cases h; exact ⟨⟨‹_›, ‹_›, ‹_›, ‹_›, ‹_›, ‹_›, ‹_›⟩, ⟨‹_›, ‹_›, ‹_›⟩, ‹_›, ‹_›, ‹_›, ‹_›⟩

theorem Chain.mayRemove_inv {fs : FsView} {a : Args} {act : Action} {lk : Bool} (h : Chain fs a act lk) (hm : act.mayRemove = true) :
    a.clean = true ∨ a.NoHigherMode ∧ (truthy a.delete = true ∨ a.deleteAll = true) := by
  cases act with
  | fileMode p c => cases c with
    | true => exact .inl h.file_inv.2.symm
    | false => cases hm
  | jsonMode p o c => cases c with
    | true => exact .inl h.json_inv.2.1.symm
    | false => cases hm
  | deleteMode d e => exact .inr ⟨h.delete_inv.1, .inl (truthy_eq_true.2 ⟨e, h.delete_inv.2.2.2.2⟩)⟩
  | deleteAllMode d => exact .inr ⟨h.deleteAll_inv.1, .inr h.deleteAll_inv.2.2.2.2.2⟩
  | _ => cases hm

/-! ### the `-f … --clean` branch -/

theorem fullOf_some_iff {env : Env} {cfg : SelCfg} {f : FileEntry} {eid : Text} {j : J} :
    fullOf env cfg f = .some (eid, j) ↔ parsePEL env cfg f.data = .doc eid j := by
  unfold fullOf
  cases parsePEL env cfg f.data <;> simp

theorem decodeResultOf_eq_doc {α} {r : FileRes α} : decodeResultOf r = .doc ↔ ∃ x, r = .some x := by
  cases r <;> simp [decodeResultOf]

theorem decodeResultOf_fullOf_doc_iff (env : Env) (cfg : SelCfg) (f : FileEntry) :
    decodeResultOf (fullOf env cfg f) = .doc ↔ ∃ eid j, parsePEL env cfg f.data = .doc eid j := by
  simp only [decodeResultOf_eq_doc, Prod.exists, fullOf_some_iff]

/-- the removal is step 2 of `filePlan`; `printed` says that steps 0 and 1 succeeded -/
theorem cleanFileTrace_remove_mem (d : DecodeResult) (clean : Bool) (fault : Nat → Bool) (ok : Bool) :
    (Ev.removeIn, ok) ∈ cleanFileTrace d clean fault ↔ clean = true ∧ printedOf d fault = true ∧ ok = !fault 2 := by
  have h01 : (∀ k, k < fileBody.length → fault k = false) ↔ fault 0 = false ∧ fault 1 = false :=
    ⟨fun h => ⟨h 0 (by decide), h 1 (by decide)⟩, fun ⟨h0, h1⟩ k hk => match k, hk with | 0, _ => h0 | 1, _ => h1⟩
  rw [cleanFileTrace_eq, cleanTrace_remove_mem fileBody_no_remove, printedOf_eq_true, h01]
  exact ⟨fun ⟨hd, hc, h, ho⟩ => ⟨hc, ⟨hd, h⟩, ho⟩, fun ⟨hc, ⟨hd, h⟩, ho⟩ => ⟨hd, hc, h, ho⟩⟩

theorem cleanFileTrace_removed_iff (d : DecodeResult) (fault : Nat → Bool) :
    inputRemoved (cleanFileTrace d true fault) = true ↔ printedOf d fault = true ∧ fault 2 = false := by
  rw [inputRemoved_iff, cleanFileTrace_remove_mem]
  simp only [true_and, Bool.true_eq, Bool.not_eq_true']

theorem fileBranch_clean_file (fault : Nat → Bool) (env : Env) (c : MainCfg) (p : Text) (w : World) (data : Bytes)
    (hw : w.file = some data) :
    (fileBranch fault env c (.fileMode p true) p w).world.file = none ↔
      (printedOf (decodeResultOf (fullOf env c.sel { name := p, data := data })) fault = true ∧ fault 2 = false) := by
  unfold fileBranch
  simp only [hw]
  split
  · rename_i hbad
    simp [hw, printedOf_eq_true, decodeResultOf_fullOf_doc_iff, hbad]
  · simp only [Action.afterPrint, Bool.true_and]
    cases printedOf (decodeResultOf (fullOf env c.sel { name := p, data := data })) fault
    · simp [hw]
    · cases fault 2 <;> simp [hw]

/-! ### the decoders look at the `Config` only through `considerPEL` -/

theorem fullOf_congr (env : Env) (c1 c2 : SelCfg) (h : ∀ sev af, considerPEL sev af c1 = considerPEL sev af c2) :
    fullOf env c1 = fullOf env c2 := by
  funext f
  simp only [fullOf, parsePEL, parsePELRd, h]

theorem summaryOf_congr (env : Env) (c1 c2 : SelCfg) (h : ∀ sev af, considerPEL sev af c1 = considerPEL sev af c2) :
    summaryOf env c1 = summaryOf env c2 := by
  funext f
  simp only [summaryOf, parseSummary, parseSummaryRd, h]

section lookupCongr
variable (env : Env) (o1 o2 : CliOpts) (hh : o1.hex = o2.hex)
  (h : ∀ sev af, considerPEL sev af { o1.cfg with lookup := true } = considerPEL sev af { o2.cfg with lookup := true })
include hh h

theorem printOne_lookup_congr (f : FileEntry) :
    printOne env o1 { o1.cfg with lookup := true } f = printOne env o2 { o2.cfg with lookup := true } f := by
  unfold printOne
  rw [fullOf_congr env _ _ h, hh]

theorem bmcIdGo_congr (n : Text) (d : Dir) (errs : Nat) : bmcIdGo env o1 n d errs = bmcIdGo env o2 n d errs := by
  induction d generalizing errs with
  | nil => rfl
  | cons f fs ih =>
    unfold bmcIdGo
    simp only [printOne_lookup_congr env o1 o2 hh h, ih]

end lookupCongr

theorem runAction_lookup_congr (fault : Nat → Bool) (env : Env) (w : World) (act : Action) (c1 c2 : MainCfg)
    (hl : act.isLookup = true) (hh : c1.hex = c2.hex) (hr : c1.rev = c2.rev) (he : c1.ext = c2.ext)
    (h : ∀ sev af, considerPEL sev af { c1.sel with lookup := true } = considerPEL sev af { c2.sel with lookup := true }) :
    runAction fault env w act c1 = runAction fault env w act c2 := by
  have hh' : c1.opts.hex = c2.opts.hex := hh
  have hr' : c1.opts.rev = c2.opts.rev := hr
  have he' : c1.opts.ext = c2.opts.ext := he
  cases act <;> simp only [Action.isLookup, Bool.false_eq_true] at hl <;>
    simp only [runAction, idMode, bmcIdMode, plidMode, srcMode, printOne_lookup_congr env c1.opts c2.opts hh h,
      bmcIdGo_congr env c1.opts c2.opts hh h,
      summaryOf_congr env { c1.opts.cfg with lookup := true } { c2.opts.cfg with lookup := true } h, hh', hr', he']

/-! ### `jsonCalls` (the `-j` loop of `main()`) and `jsonMode` (what the composed command runs) see the same files -/

/-- `hc`: `jsonMode` reads an extension `""` as "no filter", `jsonCalls` as a filter; `mkConfig` never stores `""` (`mkConfig_ext_ne_empty`) -/
theorem jsonCalls_eq_filter (c : MainCfg) (hc : c.ext ≠ some []) (d : Dir) (p out : Text) (clean : Bool) :
    (jsonCalls c (d.map (·.name)) (.jsonMode p out clean)) =
      (d.filter fun f => C08.extOk c.opts.ext f.name).map fun f => (pathJoin p f.name, out, clean) := by
  unfold jsonCalls MainCfg.opts C08.extOk
  cases he : c.ext with
  | none => simp [List.filter_map, Function.comp_def]
  | some e =>
    have hne : e ≠ [] := fun h => hc (by rw [he, h])
    simp [List.filter_map, Function.comp_def, hne]

/-! ### a tiny concrete environment and world for the non-vacuity examples -/

def envDemo : Env :=
  { T := { creators := [], sectionNames := [], subsystems := [], severities := [], eventTypes := [], eventScopes := [],
           actionFlags := [], transStates := [], failingCompTypes := [], calloutPriorities := [], compIds := [] },
    ud := fun _ => .absent, src := { callout := fun _ => .absent, src := fun _ => .absent }, allowPlugins := true }

/-- `/pels` with an empty file, a three-byte file whose name contains an id, and a subdirectory `archive`; `-f` file of two bytes;
    an exclude file; an empty output directory -/
def wDemo : World :=
  { dir := [{ name := s "junk", data := [] }, { name := s "x_50000001", data := [1, 2, 3] }], subdirs := [s "archive"],
    file := some [88, 88], exclude := some (s "BD8D0000\n"), out := some [] }

/-- a real two-section PEL (private header + user header; entry id and platform log id 0x50000001, severity 0x40, action flags 0xA000:
    serviceable and customer-viewable) and its hidden twin (action flags 0x6000, entry id 0x50000002) -/
def pelDemo : Bytes :=
  [80, 72, 0, 48, 1, 0, 32, 0, 32, 36, 3, 8, 24, 64, 39, 0, 32, 36, 3, 8, 24, 64, 39, 0, 79, 0, 0, 2, 0, 0, 0, 1, 0, 0, 0, 0, 0, 0, 0, 0,
   80, 0, 0, 1, 80, 0, 0, 1, 85, 72, 0, 24, 1, 0, 32, 0, 141, 3, 64, 0, 0, 0, 0, 0, 0, 0, 160, 0, 0, 0, 0, 0]
def pelHiddenDemo : Bytes :=
  [80, 72, 0, 48, 1, 0, 32, 0, 32, 36, 3, 8, 24, 64, 39, 0, 32, 36, 3, 8, 24, 64, 39, 0, 79, 0, 0, 2, 0, 0, 0, 1, 0, 0, 0, 0, 0, 0, 0, 0,
   80, 0, 0, 1, 80, 0, 0, 2, 85, 72, 0, 24, 1, 0, 32, 0, 141, 3, 64, 0, 0, 0, 0, 0, 0, 0, 96, 0, 0, 0, 0, 0]

/-- `/pels` with the two PELs and an undecodable file between them -/
def wPels : World :=
  { dir := [{ name := s "b_50000002", data := pelHiddenDemo }, { name := s "junk", data := [80, 72] }, { name := s "a_50000001", data := pelDemo }],
    subdirs := [s "archive"], file := some pelDemo, exclude := some (s "BD8D0000\n"), out := some [] }

end Pel
