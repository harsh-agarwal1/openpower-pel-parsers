import PelModel.Main
/-
  Lemmas about the model of `main()` (PelModel/Main.lean).  Nothing outside this file unfolds `dispatch`: every command line falls
  under one rule of the declarative `Chain` (`chain_total`), a rule says what `dispatch` returns (`dispatch_of_chain`), and a rule
  read backwards says which tests failed before it (`Chain.*_inv`, here and in PelProofs/Top.lean).  The model states `Chain` with a
  look-up flag only; the `Config` that goes with the flag is `cfgOf`, defined here.
-/
namespace Pel

theorem tv_some {o : Option Text} {v : Text} (h : tv o = some v) : o = some v ∧ v ≠ [] := by
  unfold tv at h
  split at h
  · simp only [Option.some.injEq] at h; subst h; simp
  · simp at h

theorem tv_eq_none {o : Option Text} : tv o = none ↔ (o = none ∨ o = some []) := by
  cases o with
  | none => simp [tv]
  | some v => cases v <;> simp [tv]

theorem tv_of_ne_nil {v : Text} (h : v ≠ []) : tv (some v) = some v := by
  cases v with
  | nil => exact absurd rfl h
  | cons c cs => rfl

theorem truthy_eq_true {o : Option Text} : truthy o = true ↔ ∃ v, tv o = some v := by
  unfold truthy
  cases tv o <;> simp

theorem truthy_eq_false {o : Option Text} : truthy o = false ↔ tv o = none := by
  unfold truthy
  cases tv o <;> simp

theorem truthy_iff {o : Option Text} : truthy o = true ↔ ∃ v, o = some v ∧ v ≠ [] := by
  rw [truthy_eq_true]
  exact ⟨fun ⟨v, h⟩ => ⟨v, tv_some h⟩, fun ⟨v, ho, hv⟩ => ⟨v, ho ▸ tv_of_ne_nil hv⟩⟩

/-! ### one statement of the `Config` block, for any `Config` it is applied to -/

theorem when_allowPlugins (c : MainCfg) (b : Bool) :
    c.when b (fun c => { c with allowPlugins := false }) = { c with allowPlugins := !b && c.allowPlugins } := by cases b <;> rfl
theorem when_hex (c : MainCfg) (b : Bool) : c.when b (fun c => { c with hex := true }) = { c with hex := b || c.hex } := by cases b <;> rfl
theorem when_rev (c : MainCfg) (b : Bool) : c.when b (fun c => { c with rev := true }) = { c with rev := b || c.rev } := by cases b <;> rfl
theorem when_serviceable (c : MainCfg) (b : Bool) : c.when b (fun c => { c with sel := { c.sel with serviceable := true } }) =
    { c with sel := { c.sel with serviceable := b || c.sel.serviceable } } := by cases b <;> rfl
theorem when_nonServiceable (c : MainCfg) (b : Bool) : c.when b (fun c => { c with sel := { c.sel with nonServiceable := true } }) =
    { c with sel := { c.sel with nonServiceable := b || c.sel.nonServiceable } } := by cases b <;> rfl
theorem when_term (c : MainCfg) (b : Bool) : c.when b (fun c => { c with sel := { c.sel with term := true } }) =
    { c with sel := { c.sel with term := b || c.sel.term } } := by cases b <;> rfl
theorem when_hidden (c : MainCfg) (b : Bool) : c.when b (fun c => { c with sel := { c.sel with hidden := true } }) =
    { c with sel := { c.sel with hidden := b || c.sel.hidden } } := by cases b <;> rfl
theorem when_only (c : MainCfg) (b : Bool) : c.when b (fun c => { c with sel := { c.sel with only := true } }) =
    { c with sel := { c.sel with only := b || c.sel.only } } := by cases b <;> rfl
theorem when_every (c : MainCfg) (b : Bool) : c.when b (fun c => { c with sel := { c.sel with every := true } }) =
    { c with sel := { c.sel with every := b || c.sel.every } } := by cases b <;> rfl
theorem when_severities (c : MainCfg) (t : List (Text × Nat)) (l : List Text) :
    c.when (!l.isEmpty) (fun c => { c with sel := { c.sel with severities := c.sel.severities ++ l.filterMap (sevLookup t) } }) =
    { c with sel := { c.sel with severities := c.sel.severities ++ l.filterMap (sevLookup t) } } := by
  cases l with
  | nil => simp [MainCfg.when]
  | cons x xs => rfl
theorem when_ext (c : MainCfg) (e : Option Text) :
    c.when (truthy e) (fun c => { c with ext := e }) = { c with ext := (tv e).or c.ext } := by
  cases e with
  | none => rfl
  | some v => cases v <;> rfl

theorem mkConfig_eq (t : List (Text × Nat)) (a : Args) :
    mkConfig t a =
      { sel := { every := a.every, term := a.term, serviceable := a.serviceable, nonServiceable := a.nonServiceable,
                 hidden := a.hidden, only := a.only, severities := a.severities.filterMap (sevLookup t), lookup := false },
        allowPlugins := !a.skipPlugins, hex := a.hex, rev := a.reverse, ext := tv a.extension } := by
  simp [mkConfig, when_allowPlugins, when_hex, when_rev, when_serviceable, when_nonServiceable, when_term, when_hidden, when_only,
    when_every, when_severities, when_ext]

theorem mkConfig_lookup (t : List (Text × Nat)) (a : Args) : (mkConfig t a).sel.lookup = false := by
  rw [mkConfig_eq]

theorem mkConfig_hex (t : List (Text × Nat)) (a : Args) : (mkConfig t a).hex = a.hex := by
  rw [mkConfig_eq]

theorem mkConfig_rev (t : List (Text × Nat)) (a : Args) : (mkConfig t a).rev = a.reverse := by
  rw [mkConfig_eq]

/-- `main` never stores an empty extension: `if args.extension:` is a truthiness test -/
theorem mkConfig_ext_ne_empty (t : List (Text × Nat)) (a : Args) : (mkConfig t a).ext ≠ some [] := by
  rw [mkConfig_eq]
  exact fun h => (tv_some h).2 rfl

/-! ### `dispatch` and the declarative chain -/

/-- the `Config` `main()` hands on: `mkConfig`, with a look-up id stored or not -/
def cfgOf (a : Args) (lk : Bool) : MainCfg :=
  if lk then (mkConfig severityGroupTable a).withLookup else mkConfig severityGroupTable a

theorem cfgOf_false (a : Args) : cfgOf a false = mkConfig severityGroupTable a := rfl
theorem cfgOf_true (a : Args) : cfgOf a true = (mkConfig severityGroupTable a).withLookup := rfl

theorem cfgOf_sel_false (a : Args) : (cfgOf a false).sel = (mkConfig severityGroupTable a).sel := rfl

theorem cfgOf_eq (a : Args) (lk : Bool) :
    cfgOf a lk = { mkConfig severityGroupTable a with sel := { (mkConfig severityGroupTable a).sel with lookup := lk } } := by
  cases lk
  · rw [cfgOf_false, mkConfig_eq]
  · rfl

theorem cfgOf_lookup (a : Args) (lk : Bool) : (cfgOf a lk).sel.lookup = lk := by
  rw [cfgOf_eq]

theorem chain_total (fs : FsView) (a : Args) : ∃ act lk, Chain fs a act lk := by
  cases hf : tv a.file with
  | some f => exact ⟨_, _, .file hf⟩
  | none =>
  cases hp : tv a.path with
  | none => exact ⟨_, _, .noPath hf hp⟩
  | some p =>
  cases hd : fs.isDir p with
  | false => exact ⟨_, _, .notDir hf hp hd⟩
  | true =>
  cases hj : a.json with
  | true =>
    cases ho : tv a.outputDir with
    | none => exact ⟨_, _, .jsonIn hf hp hd hj ho⟩
    | some o =>
      cases hod : fs.isDir o with
      | false => exact ⟨_, _, .jsonNoOut hf hp hd hj ho hod⟩
      | true => exact ⟨_, _, .jsonOut hf hp hd hj ho hod⟩
  | false =>
  cases hi : tv a.pelID with
  | some e => exact ⟨_, _, .id hf hp hd hj hi⟩
  | none =>
  cases hb : tv a.bmcID with
  | some n => exact ⟨_, _, .bmcId hf hp hd hj hi hb⟩
  | none =>
  cases hl : tv a.plid with
  | some x => exact ⟨_, _, .plid hf hp hd hj hi hb hl⟩
  | none =>
  cases hs : tv a.src with
  | some sv => exact ⟨_, _, .src hf hp hd hj hi hb hl hs⟩
  | none =>
  cases hx : tv a.srcExclude with
  | some f =>
    cases hxf : fs.isFile f with
    | false => exact ⟨_, _, .noExclude hf hp hd hj hi hb hl hs hx hxf⟩
    | true => exact ⟨_, _, .srcExclude hf hp hd hj hi hb hl hs hx hxf⟩
  | none =>
  cases hli : a.list with
  | true => exact ⟨_, _, .list hf hp hd hj hi hb hl hs hx hli⟩
  | false =>
  cases hn : a.count with
  | true => exact ⟨_, _, .count hf hp hd hj hi hb hl hs hx hli hn⟩
  | false =>
  cases ha : a.all with
  | true => exact ⟨_, _, .all hf hp hd hj hi hb hl hs hx hli hn ha⟩
  | false =>
  cases hde : tv a.delete with
  | some e => exact ⟨_, _, .delete hf hp hd hj hi hb hl hs hx hli hn ha hde⟩
  | none =>
  cases hD : a.deleteAll with
  | true => exact ⟨_, _, .deleteAll hf hp hd hj hi hb hl hs hx hli hn ha hde hD⟩
  | false => exact ⟨_, _, .nothing hf hp hd hj hi hb hl hs hx hli hn ha hde hD⟩

theorem dispatch_of_chain {fs : FsView} {a : Args} {act : Action} {lk : Bool} (h : Chain fs a act lk) :
    dispatch fs a = (act, cfgOf a lk) := by
  cases h <;> simp [dispatch, cfgOf, *]

theorem dispatch_chain (fs : FsView) (a : Args) : Chain fs a (dispatch fs a).1 (dispatch fs a).2.sel.lookup := by
  obtain ⟨act, lk, h⟩ := chain_total fs a
  rw [dispatch_of_chain h, cfgOf_lookup]
  exact h

theorem dispatch_cfg_eq (fs : FsView) (a : Args) : (dispatch fs a).2 = cfgOf a (dispatch fs a).2.sel.lookup :=
  congrArg Prod.snd (dispatch_of_chain (dispatch_chain fs a))

theorem dispatch_ext_ne_empty (fs : FsView) (a : Args) : (dispatch fs a).2.ext ≠ some [] := by
  rw [dispatch_cfg_eq, cfgOf_eq]
  exact mkConfig_ext_ne_empty _ a

theorem chain_every {fs : FsView} {a : Args} {act : Action} {lk : Bool} (h : Chain fs a act lk) :
    Chain fs { a with every := true } act lk := by
  cases h
  -- for the goal `.jsonMode p p _` `constructor` would try `jsonOut` first
  case jsonIn => exact .jsonIn ‹_› ‹_› ‹_› ‹_› ‹_›
  all_goals constructor <;> assumption

theorem dispatch_every (fs : FsView) (a : Args) :
    dispatch fs { a with every := true } =
      ((dispatch fs a).1, { (dispatch fs a).2 with sel := { (dispatch fs a).2.sel with every := true } }) := by
  obtain ⟨act, lk, h⟩ := chain_total fs a
  rw [dispatch_of_chain h, dispatch_of_chain (chain_every h)]
  cases lk <;> simp only [cfgOf, mkConfig_eq, MainCfg.withLookup] <;> rfl

/-! ### reading a rule backwards: what the command line looked like when a given function was reached -/

namespace Chain
variable {fs : FsView} {a : Args} {lk : Bool}

theorem file_inv {p : Text} {c : Bool} (h : Chain fs a (.fileMode p c) lk) : tv a.file = some p ∧ c = a.clean := by
  cases h; exact ⟨‹_›, rfl⟩

theorem json_inv {p o : Text} {c : Bool} (h : Chain fs a (.jsonMode p o c) lk) :
    a.json = true ∧ c = a.clean ∧ lk = false ∧ tv a.path = some p ∧ (tv a.outputDir = some o ∨ tv a.outputDir = none) := by
  cases h
  · exact ⟨‹_›, rfl, rfl, ‹_›, .inl ‹_›⟩
  · exact ⟨‹_›, rfl, rfl, ‹_›, .inr ‹_›⟩

theorem lookup_iff {act : Action} (h : Chain fs a act lk) :
    lk = true ↔ (act.isLookup = true ∨ ∃ f, act = .exitMsg (.noExcludeFile f)) := by
  cases h <;> simp [Action.isLookup]

theorem dir_inv {act : Action} {d : Text} (h : Chain fs a act lk) (hd : act.dir? = some d) : tv a.path = some d ∧ fs.isDir d = true := by
  cases h <;> cases hd <;> exact ⟨‹_›, ‹_›⟩

end Chain

theorem Action.afterPrint_eq_some {act : Action} {printed : Bool} {q : Text} :
    act.afterPrint printed = some q ↔ act = .fileMode q true ∧ printed = true := by
  cases act with
  | fileMode p c => cases c <;> cases printed <;> simp [Action.afterPrint]
  | _ => simp [Action.afterPrint]

theorem printedOf_eq_true {d : DecodeResult} {fault : Nat → Bool} :
    printedOf d fault = true ↔ d = .doc ∧ fault 0 = false ∧ fault 1 = false := by
  cases d <;> simp [printedOf]

end Pel
