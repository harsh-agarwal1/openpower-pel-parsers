import PelModel.IoDrawerSem
import PelProofs.Basic
/-
  Lemmas about the vocabulary of the regenerated definitions (PelModel/IoDrawerSem.lean), used by the source ties
  PelProps/TieC14|TieC15|TieC16|TieC20.lean.  Nothing here depends on the generated file.
-/
namespace Pel.IoSem

theorem andNot_testBit (x m i : Nat) : (andNot x m).testBit i = (x.testBit i && !m.testBit i) := by
  simp only [andNot, Nat.testBit_xor, Nat.testBit_and]
  cases x.testBit i <;> cases m.testBit i <;> rfl

/-- on 32-bit values `x & ~m` is the model's `x &&& (0xFFFFFFFF - m)` -/
theorem andNot_eq_and (x m : Nat) (hx : x < 2 ^ 32) (hm : m < 2 ^ 32) : andNot x m = x &&& (0xFFFFFFFF - m) := by
  apply Nat.eq_of_testBit_eq
  intro i
  rw [andNot_testBit, Nat.testBit_and]
  have e : (0xFFFFFFFF - m) = 2 ^ 32 - (m + 1) := by omega
  rw [e, Nat.testBit_two_pow_sub_succ hm]
  by_cases hi : i < 32
  · simp [hi]
  · have : x.testBit i = false := Nat.testBit_lt_two_pow (Nat.lt_of_lt_of_le hx (Nat.pow_le_pow_right (by omega) (by omega)))
    simp [this]

theorem natDecI_nonneg (v : Int) (h : 0 ≤ v) : natDecI v = natDec v.toNat := by
  obtain ⟨n, rfl⟩ := Int.eq_ofNat_of_zero_le h; rfl

theorem fmtDec0I_nonneg (w : Nat) (v : Int) (h : 0 ≤ v) : fmtDec0I w v = fmtDec0 w v.toNat := by
  obtain ⟨n, rfl⟩ := Int.eq_ofNat_of_zero_le h; rfl

theorem fmtDecSpI_nonneg (w : Nat) (v : Int) (h : 0 ≤ v) : fmtDecSpI w v = fmtDecSp w v.toNat := by
  unfold fmtDecSpI fmtDecSp
  rw [natDecI_nonneg v h]

theorem fmtHexI_nonneg (w : Nat) (v : Int) (h : 0 ≤ v) : fmtHexI w v = fmtHex w v.toNat := by
  obtain ⟨n, rfl⟩ := Int.eq_ofNat_of_zero_le h; rfl

theorem optAll_map_some {α β} (l : List α) (f : α → Option β) (g : α → β) (h : ∀ x ∈ l, f x = some (g x)) :
    optAll (l.map f) = some (l.map g) := by
  induction l with
  | nil => rfl
  | cons a as ih =>
    have h1 := h a (by simp)
    have h2 := ih (fun x hx => h x (by simp [hx]))
    simp [optAll, h1, h2]

/-- a 1-based position inside the list: `l[p - 1]` does not raise and is the model's `getD` -/
theorem index?_pos {α} (l : List α) (p : Nat) (d : α) (h1 : 1 ≤ p) (h2 : p ≤ l.length) :
    index? l ((p : Int) - 1) = some (l.getD (p - 1) d) := by
  have e : ((p : Int) - 1) = Int.ofNat (p - 1) := by simp; omega
  rw [e]
  simp only [index?]
  rw [List.getD_eq_getElem?_getD, List.getElem?_eq_getElem (by omega)]
  rfl

theorem slice_eq {α} (l : List α) (a b : Nat) : slice l a b = (l.drop a).take (b - a) := by
  simp [slice, List.drop_take]

theorem checkHex_iff (t : Text) (n : Nat) : checkHex t n = true ↔ t.length = 2 * n ∧ ∀ c ∈ t, isHexDigit c = true := by
  simp [checkHex, List.all_eq_true]

theorem checkHex_slice (t : Text) (n a b k : Nat) (h : checkHex t n = true) (hb : b ≤ 2 * n) (hk : b - a = 2 * k) :
    checkHex (slice t a b) k = true := by
  rw [checkHex_iff] at h ⊢
  rw [slice_eq]
  refine ⟨by simp [List.length_take, List.length_drop]; omega, ?_⟩
  intro c hc
  exact h.2 c (List.mem_of_mem_drop (List.mem_of_mem_take hc))

theorem checkInt_parse_slice (t : Text) (n a b k : Nat) (h : checkHex t n = true) (hb : b ≤ 2 * n) (hk : b - a = 2 * k) :
    checkInt (parseHexText (slice t a b)) k = true := by
  have hs := (checkHex_iff _ _).mp (checkHex_slice t n a b k h hb hk)
  have := parseHexText_lt _ hs.2
  rw [hs.1] at this
  simp only [checkInt, decide_eq_true_eq]
  have e : (2:Nat) ^ (8 * k) = 16 ^ (2 * k) := by
    rw [show (16:Nat) = 2 ^ 4 by decide, ← Nat.pow_mul]; congr 1; omega
  omega

/-! ### streams

Every stream a reader meets is `st.advance k` for the `st` the function was entered with.  Seen from there `check_range` is a test on
`st.rest.length`, and inside a window `N ≤ st.rest.length` every read succeeds and returns a slice of `st.rest`: the terms the
hand-written readers are made of.  With `st` and the window given, the side conditions of these lemmas are closed arithmetic (`simp`
decides them), and they cannot fire on the streams bound inside a continuation that has not been reached yet. -/

theorem rest_length (st : Stream) : st.rest.length = st.data.length - st.index := by
  simp [Stream.rest]

/-- "`n` more bytes fit", as the loop bodies written against `index` and `data` say it and as the readers over `st.rest` say it -/
theorem index_add_le (st : Stream) (n : Nat) (hn : 0 < n) : st.index + n ≤ st.data.length ↔ n ≤ st.rest.length := by
  rw [rest_length]; omega

theorem advance_rest (st : Stream) (n : Nat) : (st.advance n).rest = st.rest.drop n := by
  simp [Stream.rest, Stream.advance, List.drop_drop]

@[simp] theorem advance_data (st : Stream) (n : Nat) : (st.advance n).data = st.data := rfl
@[simp] theorem advance_index (st : Stream) (n : Nat) : (st.advance n).index = st.index + n := rfl
theorem advance_zero (st : Stream) : st.advance 0 = st := rfl
theorem advance_advance (st : Stream) (a b : Nat) : (st.advance a).advance b = st.advance (a + b) := by
  simp [Stream.advance, Nat.add_assoc]

theorem checkRange_adv (st : Stream) (k : Nat) (n : Int) (h : 0 < n) :
    checkRange (st.advance k) n = .ok (decide (k + n.toNat ≤ st.rest.length)) := by
  unfold checkRange
  rw [if_neg (by omega), rest_length]
  congr 1
  rw [decide_eq_decide, advance_index, advance_data]
  omega

theorem getMem_adv (st : Stream) {N : Nat} (hN : N ≤ st.rest.length) (k : Nat) (n : Int) (h0 : 0 < n) (h : k + n.toNat ≤ N) :
    getMem (st.advance k) n = .ok ((st.rest.drop k).take n.toNat, st.advance (k + n.toNat)) := by
  unfold getMem
  rw [checkRange_adv st k n h0, decide_eq_true (by omega), advance_rest, advance_advance]

theorem getInt_adv (st : Stream) {N : Nat} (hN : N ≤ st.rest.length) (k : Nat) (n : Int) (h0 : 0 < n) (h : k + n.toNat ≤ N) :
    getInt (st.advance k) n = .ok (fromBE ((st.rest.drop k).take n.toNat), st.advance (k + n.toNat)) := by
  unfold getInt; rw [getMem_adv st hN k n h0 h]

theorem incIndex_adv (st : Stream) {N : Nat} (hN : N ≤ st.rest.length) (k : Nat) (n : Int) (h0 : 0 < n) (h : k + n.toNat ≤ N) :
    incIndex (st.advance k) n = .ok (st.advance (k + n.toNat)) := by
  unfold incIndex
  rw [checkRange_adv st k n h0, decide_eq_true (by omega), advance_advance]

/-! the same at the stream itself (`k = 0`) -/

theorem checkRange_rest (st : Stream) (n : Int) (h : 0 < n) : checkRange st n = .ok (decide (n.toNat ≤ st.rest.length)) := by
  simpa only [Nat.zero_add, advance_zero] using checkRange_adv st 0 n h

theorem getMem_rest (st : Stream) {N : Nat} (hN : N ≤ st.rest.length) (n : Int) (h0 : 0 < n) (h : n.toNat ≤ N) :
    getMem st n = .ok (st.rest.take n.toNat, st.advance n.toNat) := by
  simpa only [Nat.zero_add, List.drop_zero, advance_zero] using getMem_adv st hN 0 n h0 (by omega)

theorem getInt_rest (st : Stream) {N : Nat} (hN : N ≤ st.rest.length) (n : Int) (h0 : 0 < n) (h : n.toNat ≤ N) :
    getInt st n = .ok (fromBE (st.rest.take n.toNat), st.advance n.toNat) := by
  simpa only [Nat.zero_add, List.drop_zero, advance_zero] using getInt_adv st hN 0 n h0 (by omega)

theorem incIndex_rest (st : Stream) {N : Nat} (hN : N ≤ st.rest.length) (n : Int) (h0 : 0 < n) (h : n.toNat ≤ N) :
    incIndex st n = .ok (st.advance n.toNat) := by
  simpa only [Nat.zero_add, List.drop_zero, advance_zero] using incIndex_adv st hN 0 n h0 (by omega)

/-! ### results and loop outcomes -/

@[simp] theorem bind_ok {α β} (a : α) (f : α → Res β) : Res.bind (.ok a) f = f a := rfl
@[simp] theorem bind_no {α β} (f : α → Res β) : Res.bind .no f = .no := rfl
@[simp] theorem bind_raised {α β} (f : α → Res β) : Res.bind .raised f = .raised := rfl
@[simp] theorem bindStep_ok {α β σ} (a : α) (f : α → Step σ (Res β)) : Res.bindStep (.ok a) f = f a := rfl
@[simp] theorem elim_ret {σ ρ β} (a : ρ → β) (b : σ → β) (r : ρ) : LoopOut.elim a b (.ret r) = a r := rfl
@[simp] theorem elim_done {σ ρ β} (a : ρ → β) (b : σ → β) (s : σ) : LoopOut.elim a b (.done s) = b s := rfl

/-! ### one-byte fields; the size test at the end of a reader -/

theorem fromBE_take1 (r : Bytes) (k : Nat) (h : k < r.length) : fromBE ((r.drop k).take 1) = r.getD k 0 := by
  have : (r.drop k).take 1 = [r[k]] := by
    rw [List.drop_eq_getElem_cons h]; rfl
  rw [this, List.getD_eq_getElem?_getD, List.getElem?_eq_getElem h]
  simp [fromBE]

theorem fromBE_take1_zero (r : Bytes) (h : 0 < r.length) : fromBE (r.take 1) = r.getD 0 0 := by
  have := fromBE_take1 r 0 h
  simpa using this

/-- `stream.index - start_index` once the index is known to be `start + T`, as the final size test of a reader meets it -/
theorem int_eq_sub (a i T : Nat) : ((a : Int) == ((i + T : Nat) : Int) - (i : Int)) = (a == T) := by
  rw [show ((i + T : Nat) : Int) - (i : Int) = (T : Int) by omega, Bool.eq_iff_iff, beq_iff_eq, beq_iff_eq, Int.natCast_inj]

theorem int_ne_sub (a i T : Nat) : ((a : Int) != ((i + T : Nat) : Int) - (i : Int)) = !(a == T) := by
  rw [bne, int_eq_sub]

end Pel.IoSem

namespace Pel.Tie

/-- closes `f a₁ … = f b₁ …` goals whose arguments differ by linear arithmetic only -/
syntax "tie_congr" : tactic
macro_rules | `(tactic| tie_congr) => `(tactic| first | omega | (congr 1 <;> tie_congr) | rfl)

end Pel.Tie
