import PelProofs.FramesSimple
import PelProofs.JsonObj
/- Framing of the SRC section and its callout subsection.

   The callout part looks ahead (`peek2`, `remaining`) and runs on fuel, so it is no chain of `Frames.bind`.  A callout's
   substructures (`ASub`: the three kinds, in any order) are walked by `readSubs`, which collects the last of each kind (`Subs`); the
   callouts by `readCallouts`.  `subsWalk` and `calloutsWalk` are the two walks with their fuel taken from the input; what they do on
   cut input is then a `Cut`, built along the encoding by `Cut.append`.  The list walk, and with it `decodeCallouts`, frames.

   `decodeSRC` is one long `do` block.  `decodeSRC_eq` cuts it into the eight reads of the fixed part (`srcFixed`) and `srcTail`, a
   function of what they returned: the registry's answer `srcEd`, which may raise, then `srcAfterEd`: the member list before the
   callouts `srcMembers` (its hex words: `hexWord`, `srcHexw`), the callout subsection, and `srcFinish` with the parser module's
   answer to `srcHexwords`.  `renderSrc_eq` states the prescribed display in the same pieces, so that `exact_SRC` compares like with
   like.  The source tie (TieSrc: the translated `SRC.toJSON` is `srcTail`) and the directory modes (TieDirModes: what `decodeSRC`
   returns has a "Reference Code" member) reason about the same pieces. -/
namespace Pel

theorem Frames.optText (c : Prop) [Decidable c] (n : Nat) (b : Bytes) (hb : b.length = if c then n else 0) (hn : 0 < n)
    (ha : isAscii b) :
    Frames (if c then (do let t ← Pel.getText n; Pure.pure (some (stripNul t))) else Pure.pure none : Rd (Option Text)) b
      (if c then some (stripNul b) else none) :=
  Frames.opt (fun h => by rw [if_pos h]; exact (Frames.getTextN n b ha (by rw [hb, if_pos h]) hn).map _)
    (fun h => ⟨List.eq_nil_of_length_eq_zero (by rw [hb, if_neg h]), by rw [if_neg h]⟩)

/-! ### callout substructures -/

def fruOf (f : AFru) : Fru :=
  { flags := f.flags, pnOrProc := stripNul f.pn, ccin := stripNul f.ccin, sn := stripNul f.sn, flatSize := f.size }

def pceOf (p : APce) : Pce :=
  { declaredSize := p.size, mtm := stripNul p.mtm, sn := stripNul p.sn, name := some (stripNul p.name) }

def mruOf (m : AMru) : Mru := { declaredSize := m.size, ids := m.items }

theorem AFru.size_lt (f : AFru) (hf : f.WF) : f.size < 256 := by
  obtain ⟨_, hpn, hcc, hsn, _⟩ := hf
  unfold AFru.size
  split at hpn <;> split at hcc <;> split at hsn <;> omega

theorem optField_getD (c : Prop) [Decidable c] (n : Nat) (b : Bytes) (hb : b.length = if c then n else 0) :
    (if c then some (stripNul b) else none).getD [] = stripNul b := by
  split
  · rfl
  · rw [List.eq_nil_of_length_eq_zero (hb.trans (if_neg ‹_›))]; rfl

theorem optField_size (c : Prop) [Decidable c] (n : Nat) (b : Bytes) (hb : b.length = if c then n else 0) :
    (if (if c then some (stripNul b) else none).isSome = true then n else 0) = b.length := by
  rw [hb]; split <;> rfl

theorem Frames.readFru (f : AFru) (hf : f.WF) : Frames Pel.readFru f.enc (fruOf f) := by
  have hsz := f.size_lt hf
  obtain ⟨hfl, hpn, hcc, hsn, apn, acc, asn⟩ := hf
  have hpn' : f.pn.length = if (f.flags &&& 0x08 ≠ 0 ∨ f.flags &&& 0x02 ≠ 0) then 8 else 0 := by
    rw [hpn]; simp [AFru.hasPn]
  have hcc' : f.ccin.length = if (f.flags &&& 0x04 ≠ 0) then 4 else 0 := by
    rw [hcc]; simp [AFru.hasCcin]
  have hsn' : f.sn.length = if (f.flags &&& 0x01 ≠ 0) then 12 else 0 := by
    rw [hsn]; simp [AFru.hasSn]
  unfold Pel.readFru
  refine Frames.cast
    (Frames.bind (getInt2_lit 0x49 0x44 (by omega) (by omega)) <|
     Frames.bind (Frames.getInt1 _ hsz) <|
     Frames.bind (Frames.getInt1 _ hfl) <|
     Frames.iteBind (Frames.optText _ 8 f.pn hpn' (by omega) apn) <|
     Frames.iteBind (Frames.optText _ 4 f.ccin hcc' (by omega) acc) <|
     Frames.iteBind (Frames.optText _ 12 f.sn hsn' (by omega) asn) <|
     Frames.pure _) ?_ ?_
  · simp [AFru.enc]
  · simp only [fruOf, AFru.size, optField_getD _ 8 f.pn hpn', optField_getD _ 4 f.ccin hcc', optField_getD _ 12 f.sn hsn',
      optField_size _ 8 f.pn hpn', optField_size _ 4 f.ccin hcc', optField_size _ 12 f.sn hsn']

theorem APce.size_lt (p : APce) (hp : p.WF) : 25 ≤ p.size ∧ p.size < 256 := by
  obtain ⟨_, _, _, h1, h2, _⟩ := hp
  unfold APce.size; omega

theorem Frames.readPce (p : APce) (hp : p.WF) : Frames Pel.readPce p.enc (pceOf p) := by
  have hsz := p.size_lt hp
  obtain ⟨hfl, hm, hs, hn1, hn2, am, as, an⟩ := hp
  unfold Pel.readPce
  refine Frames.cast
    (Frames.bind (getInt2_lit 0x50 0x45 (by omega) (by omega)) <|
     Frames.bind (Frames.getInt1 _ hsz.2) <|
     Frames.bind (Frames.getInt1 _ hfl) <|
     Frames.bind (Frames.getTextN 8 _ am hm (by omega)) <|
     Frames.bind (Frames.getTextN 12 _ as hs (by omega)) <|
     Frames.ite (fun h => absurd h (by omega)) fun _ =>
     Frames.bind (Frames.getTextN (p.size - 24) _ an (by unfold APce.size; omega) (by unfold APce.size; omega)) <|
     Frames.pure _) ?_ rfl
  simp [APce.enc]

theorem Frames.readMruItems (items : List (Nat × Nat)) (h : ∀ p ∈ items, p.1 < 2^32 ∧ p.2 < 2^32) :
    Frames (Pel.readMruItems items.length) (items.flatMap (fun p => toBE 4 p.1 ++ toBE 4 p.2)) items := by
  induction items with
  | nil => exact Frames.pure []
  | cons a r ih =>
    have ha := h a (by simp)
    refine Frames.cast
      (Frames.bind (Frames.getInt 4 a.1 (by omega) (by omega)) <|
       Frames.bind (Frames.getInt 4 a.2 (by omega) (by omega)) <|
       Frames.bind (ih fun p hp => h p (by simp [hp])) <|
       Frames.pure _) ?_ rfl
    simp

theorem AMru.size_lt (m : AMru) (hm : m.WF) : 8 ≤ m.size ∧ m.size < 256 := by
  obtain ⟨_, _, h, _⟩ := hm
  unfold AMru.size; omega

theorem Frames.readMru (m : AMru) (hm : m.WF) : Frames Pel.readMru m.enc (mruOf m) := by
  have hsz := m.size_lt hm
  obtain ⟨hfl, hrs, hn, hit⟩ := hm
  have hcnt : (m.flagsHi * 16 + m.items.length) &&& 0xf = m.items.length :=
    (Nat.and_two_pow_sub_one_eq_mod _ 4).trans (by omega)
  unfold Pel.readMru
  refine Frames.cast
    (Frames.bind (getInt2_lit 0x4D 0x52 (by omega) (by omega)) <|
     Frames.bind (Frames.getInt1 _ hsz.2) <|
     Frames.bind (Frames.getInt1 (m.flagsHi * 16 + m.items.length) (by omega)) <|
     Frames.bind (Frames.getInt 4 m.resv (by omega) (by omega)) <|
     Frames.bind (hcnt ▸ Frames.readMruItems _ hit) <|
     Frames.pure _) ?_ rfl
  simp [AMru.enc]

/-! ### the substructure walk -/

theorem readSubs_succ (fuel size cur : Nat) (f : Option Fru) (p : Option Pce) (m : Option Mru) (st : Bytes) :
    readSubs (fuel+1) size cur f p m st =
      if size > cur then
        if fromBE (st.take 2) = 0x4944 then (readFru >>= fun x => readSubs fuel size (cur + x.flatSize) (some x) p m) st
        else if fromBE (st.take 2) = 0x5045 then (readPce >>= fun x => readSubs fuel size (cur + x.declaredSize) f (some x) m) st
        else if fromBE (st.take 2) = 0x4D52 then (readMru >>= fun x => readSubs fuel size (cur + x.declaredSize) f p (some x)) st
        else .ok ((f, p, m), st)
      else .ok ((f, p, m), st) := by
  rw [readSubs]
  simp only [apply_ite (fun r : Rd _ => r st), bind_ok peek2 _ st st _ rfl]
  rfl

theorem readSubs_stop (fuel size cur : Nat) (f : Option Fru) (p : Option Pce) (m : Option Mru) (h : ¬ size > cur) (st : Bytes) :
    readSubs fuel size cur f p m st = .ok ((f, p, m), st) := by
  cases fuel with
  | zero => rfl
  | succ n => rw [readSubs_succ, if_neg h]

/-- a callout substructure of any of the three kinds; the walk takes them in any order -/
inductive ASub where
  | fru (f : AFru)
  | pce (p : APce)
  | mru (m : AMru)

def ASub.enc : ASub → Bytes
  | .fru f => f.enc
  | .pce p => p.enc
  | .mru m => m.enc

def ASub.size : ASub → Nat
  | .fru f => f.size
  | .pce p => p.size
  | .mru m => m.size

def ASub.WF : ASub → Prop
  | .fru f => f.WF
  | .pce p => p.WF
  | .mru m => m.WF

/-- what the walk has collected: the last substructure of each kind -/
abbrev Subs := Option Fru × Option Pce × Option Mru

def ASub.put : ASub → Subs → Subs
  | .fru x, (_, p, m) => (some (fruOf x), p, m)
  | .pce x, (f, _, m) => (f, some (pceOf x), m)
  | .mru x, (f, p, _) => (f, p, some (mruOf x))

/-- the sizes the collected substructures declare: what `Callout.flattenedSize` adds up -/
def subAcc (s : Subs) : Nat :=
  (s.1.map (·.flatSize)).getD 0 + (s.2.1.map (·.declaredSize)).getD 0 + (s.2.2.map (·.declaredSize)).getD 0

theorem ASub.size_pos (x : ASub) : 0 < x.size := by
  cases x <;> simp only [ASub.size, AFru.size, APce.size, AMru.size] <;> omega

theorem ASub.enc_length_ge (x : ASub) : 4 ≤ x.enc.length := by
  cases x <;> simp [ASub.enc, AFru.enc, APce.enc, AMru.enc]

theorem subAcc_put (x : ASub) (s : Subs) : subAcc (x.put s) ≤ subAcc s + x.size := by
  obtain ⟨f, p, m⟩ := s
  cases x <;> simp only [ASub.put, subAcc, ASub.size, Option.map_some, Option.getD_some, fruOf, pceOf, mruOf] <;> omega

/-- The walk with the collected substructures as one argument and with its fuel taken from the input: one more than what is left to
    read, plus `d` (`readCallout` starts it with `d = 0`).  The fuel then does not depend on where the input is cut, and behind a
    substructure the walk is the same reader with another `d`: so its behaviour on cut input is a `Cut`, put together by `Cut.append`. -/
def subsWalk (d size cur : Nat) (s : Subs) : Rd Subs := fun st => readSubs (st.length + d + 1) size cur s.1 s.2.1 s.2.2 st

/-- A reader on fuel, `F`, that peeks two bytes, goes on as `rd >>= next n` on the id word `b0 b1` (`n` the fuel left) and returns
    `out` on a word below 256 (fewer than two bytes are left), run with the fuel `subsWalk` gives it.  On an encoding `E` that `rd`
    frames and that begins with the id, it reads `E` and goes on with `next` on the fuel left (`r'`, as the caller writes it); cut
    inside `E` it fails with `rd`, except within the first byte, where it returns `out`. -/
theorem peek_dispatch {α β} {F : Nat → Rd β} {rd : Rd α} {next : Nat → α → Rd β} {E : Bytes} {v : α} {b0 b1 : Nat} {tl : Bytes} {out : β}
    {P : β → Bytes → Prop} (d : Nat) (hE : Frames rd E v) (hEq : E = b0 :: b1 :: tl) (hb0 : b0 < 256)
    (hid : ∀ n st, fromBE (st.take 2) = fromBE [b0, b1] → F (n + 1) st = (rd >>= next n) st)
    (hlow : ∀ n st, fromBE (st.take 2) < 256 → F (n + 1) st = .ok (out, st)) (hP : ∀ st, st.length ≤ 1 → P out st)
    {r' : Rd β} (hnext : ∀ rest, next ((E ++ rest).length + d) v rest = r' rest) :
    (∀ rest, F ((E ++ rest).length + d + 1) (E ++ rest) = r' rest) ∧ Cut (FailsOr P) (fun st => F (st.length + d + 1) st) E := by
  subst hEq
  refine ⟨fun rest => by rw [hid _ _ rfl, (hE.bindTo _).exact, hnext], fun k hk => ?_⟩
  match k with
  | 0 => exact .inr ⟨out, _, hlow _ _ (by simp [fromBE]), hP _ (by simp)⟩
  | 1 => exact .inr ⟨out, _, hlow _ _ (by simpa [fromBE] using hb0), hP _ (by simp)⟩
  | k+2 =>
    show FailsOr P (F _ _)
    rw [hid _ _ (by simp)]
    exact .inl (bind_fails _ (hE.strict _ hk))

/-- one substructure: the walk goes on behind it; cut inside it, the walk fails, or stops with what it had and at most one byte -/
theorem subsWalk_sub (x : ASub) (hx : x.WF) (d size cur : Nat) (s : Subs) (h : size > cur) {P : Subs → Bytes → Prop}
    (hP : ∀ st, st.length ≤ 1 → P s st) :
    (∀ rest, subsWalk d size cur s (x.enc ++ rest) = subsWalk (d + (x.enc.length - 1)) size (cur + x.size) (x.put s) rest) ∧
    Cut (FailsOr P) (subsWalk d size cur s) x.enc := by
  obtain ⟨f, p, m⟩ := s
  have step : ∀ n st, readSubs (n + 1) size cur f p m st = _ := fun n st => (readSubs_succ n size cur f p m st).trans (if_pos h)
  have low : ∀ n st, fromBE (st.take 2) < 256 → readSubs (n + 1) size cur f p m st = .ok ((f, p, m), st) := fun n st hlt => by
    rw [step, if_neg (by omega), if_neg (by omega), if_neg (by omega)]
  have conv : ∀ (f' : Option Fru) (p' : Option Pce) (m' : Option Mru) (rest : Bytes),
      readSubs ((x.enc ++ rest).length + d) size (cur + x.size) f' p' m' rest =
        subsWalk (d + (x.enc.length - 1)) size (cur + x.size) (f', p', m') rest := fun f' p' m' rest =>
    congrArg (readSubs · size (cur + x.size) f' p' m' rest) (by have := x.enc_length_ge; rw [List.length_append]; omega)
  cases x with
  | fru x =>
    exact peek_dispatch (F := fun n => readSubs n size cur f p m) d (Frames.readFru x hx) rfl (by omega)
      (fun n st hp => by rw [step, hp]; rfl) low hP (conv _ _ _)
  | pce x =>
    exact peek_dispatch (F := fun n => readSubs n size cur f p m) d (Frames.readPce x hx) rfl (by omega)
      (fun n st hp => by rw [step, hp]; rfl) low hP (conv _ _ _)
  | mru x =>
    exact peek_dispatch (F := fun n => readSubs n size cur f p m) d (Frames.readMru x hx) rfl (by omega)
      (fun n st hp => by rw [step, hp]; rfl) low hP (conv _ _ _)

theorem subsWalk_exact (xs : List ASub) (hxs : ∀ x ∈ xs, x.WF) (d size cur : Nat) (s : Subs) (rest : Bytes)
    (hs : size = cur + (xs.map (·.size)).sum) :
    subsWalk d size cur s (xs.flatMap (·.enc) ++ rest) = .ok (xs.foldl (fun s x => x.put s) s, rest) := by
  induction xs generalizing d cur s with
  | nil => exact readSubs_stop _ _ _ _ _ _ (by simp at hs; omega) _
  | cons x r ih =>
    simp only [List.map_cons, List.sum_cons] at hs
    rw [List.flatMap_cons, List.append_assoc,
      (subsWalk_sub x (hxs x (by simp)) d size cur s (by have := x.size_pos; omega) (P := fun _ _ => True) fun _ _ => trivial).1]
    exact ih (fun y hy => hxs y (by simp [hy])) _ _ _ (by omega)

/-- `base` is what the callout has read before its substructures, its header and location code (`4 + loc.length` in
    `readCallout_cut`): with it `base + subAcc s'` is the flattened size of the callout that comes out short. -/
theorem subsWalk_cut (xs : List ASub) (hxs : ∀ x ∈ xs, x.WF) (d size cur base : Nat) (s : Subs)
    (hs : size = cur + (xs.map (·.size)).sum) (hb : base + subAcc s ≤ cur) :
    Cut (FailsOr fun s' st => base + subAcc s' < size ∧ st.length ≤ 1) (subsWalk d size cur s) (xs.flatMap (·.enc)) := by
  induction xs generalizing d cur s with
  | nil => exact fun k hk => nomatch hk
  | cons x r ih =>
    simp only [List.map_cons, List.sum_cons] at hs
    have hpos := x.size_pos
    obtain ⟨hstep, hcut⟩ := subsWalk_sub x (hxs x (by simp)) d size cur s (by omega)
      (P := fun s' st => base + subAcc s' < size ∧ st.length ≤ 1) fun st hl => ⟨by omega, hl⟩
    rw [List.flatMap_cons]
    exact Cut.append hstep hcut (ih (fun y hy => hxs y (by simp [hy])) _ _ _ (by omega) (by have := subAcc_put x s; omega))

/-! ### one callout -/

theorem Frames.loc (n : Nat) (loc : Bytes) (hl : loc.length = n) (ha : isAscii loc) :
    Frames (if n > 0 then (do let t ← Pel.getText n; Pure.pure (stripNul t)) else Pure.pure [] : Rd Text) loc (stripNul loc) :=
  Frames.opt (fun h => (Frames.getTextN n loc ha hl h).map _)
    (fun h => by obtain rfl := List.eq_nil_of_length_eq_zero (by omega : loc.length = 0); exact ⟨rfl, rfl⟩)

def calloutOf (c : ACallout) : Callout :=
  { size := c.size, flags := c.flags, priority := c.priority, locSize := c.loc.length, loc := stripNul c.loc,
    fru := some (fruOf c.fru), pce := c.pce.map pceOf, mru := c.mru.map mruOf }

theorem calloutOf_flattenedSize (c : ACallout) : (calloutOf c).flattenedSize = c.size := by
  unfold Callout.flattenedSize calloutOf ACallout.size
  cases c.pce <;> cases c.mru <;> simp [fruOf, pceOf, mruOf]

/-- a callout's substructures in the order they are written -/
def ACallout.subs (c : ACallout) : List ASub := .fru c.fru :: ((c.pce.map ASub.pce).toList ++ (c.mru.map ASub.mru).toList)

theorem ACallout.enc_eq (c : ACallout) :
    c.enc = [c.size, c.flags, c.priority, c.loc.length] ++ c.loc ++ c.subs.flatMap (·.enc) := by
  cases hp : c.pce <;> cases hm : c.mru <;> simp [ACallout.enc, ACallout.subs, ASub.enc, hp, hm]

theorem ACallout.size_eq (c : ACallout) : c.size = 4 + c.loc.length + (c.subs.map (·.size)).sum := by
  cases hp : c.pce <;> cases hm : c.mru <;> simp [ACallout.size, ACallout.subs, ASub.size, hp, hm] <;> omega

theorem ACallout.subs_wf (c : ACallout) (hc : c.WF) : ∀ x ∈ c.subs, x.WF := by
  obtain ⟨_, _, _, _, hfr, hp, hm, _⟩ := hc
  intro x hx
  simp only [ACallout.subs, List.mem_cons, List.mem_append, Option.mem_toList, Option.map_eq_some_iff] at hx
  rcases hx with rfl | ⟨p, h, rfl⟩ | ⟨m, h, rfl⟩
  · exact hfr
  · exact hp p h
  · exact hm m h

theorem ACallout.subs_put (c : ACallout) :
    c.subs.foldl (fun s x => x.put s) (none, none, none) = (some (fruOf c.fru), c.pce.map pceOf, c.mru.map mruOf) := by
  cases hp : c.pce <;> cases hm : c.mru <;> simp [ACallout.subs, ASub.put, hp, hm]

theorem readCallout_head (c : ACallout) (hc : c.WF) :
    FramesTo readCallout ([c.size, c.flags, c.priority, c.loc.length] ++ c.loc)
      (subsWalk 0 c.size (4 + c.loc.length) (none, none, none) >>= fun (f, p, m) =>
        pure { size := c.size, flags := c.flags, priority := c.priority, locSize := c.loc.length, loc := stripNul c.loc,
               fru := f, pce := p, mru := m }) := by
  obtain ⟨hfl, hpr, hll, hla, hfr, hp, hm, hsz⟩ := hc
  unfold readCallout
  exact FramesTo.cast (
    .bind (Frames.getInt1 c.size hsz) <|
    .bind (Frames.getInt1 c.flags hfl) <|
    .bind (Frames.getInt1 c.priority hpr) <|
    .bind (Frames.getInt1 c.loc.length (by omega)) <|
    .iteBind (Frames.loc _ c.loc rfl hla) <|
    .refl _) (by simp)

theorem readCallout_exact (c : ACallout) (hc : c.WF) (rest : Bytes) :
    readCallout (c.enc ++ rest) = .ok (calloutOf c, rest) := by
  rw [c.enc_eq, List.append_assoc, (readCallout_head c hc).exact, bind_ok _ _ _ _ _
    (subsWalk_exact c.subs (c.subs_wf hc) 0 c.size (4 + c.loc.length) (none, none, none) rest c.size_eq), c.subs_put]
  rfl

theorem readCallout_cut (c : ACallout) (hc : c.WF) :
    Cut (FailsOr fun c' st => c'.flattenedSize < c.size ∧ st.length ≤ 1) readCallout c.enc := by
  rw [c.enc_eq]
  refine (readCallout_head c hc).cut (fun e => .inl ⟨e, rfl⟩) fun k hk => ?_
  refine (subsWalk_cut c.subs (c.subs_wf hc) 0 c.size (4 + c.loc.length) (4 + c.loc.length) (none, none, none) c.size_eq
    (by simp [subAcc]) k hk).bind _ (fun e => .inl ⟨e, rfl⟩) fun ⟨f, p, m⟩ st ⟨hlt, hst⟩ => .inr ⟨_, st, rfl, ?_, hst⟩
  simp only [Callout.flattenedSize, subAcc] at hlt ⊢
  omega

theorem readCallout_short (st : Bytes) (h : st.length ≤ 1) : ∃ e, readCallout st = .error e := by
  match st, h with
  | [], _ => exact ⟨.range, rfl⟩
  | [b], _ => exact ⟨.range, rfl⟩

/-! ### the list of callouts -/

theorem ACallout.size_ge (c : ACallout) : 4 ≤ c.size := by unfold ACallout.size; omega

theorem ACallout.enc_length_ge (c : ACallout) : 4 ≤ c.enc.length := by simp [ACallout.enc]

/-- the list walk with its fuel taken from the input, like `subsWalk` (`decodeCallouts` starts it with `d = 0`) -/
def calloutsWalk (d total cur : Nat) : Rd (List Callout) := fun st => readCallouts (st.length + d + 1) total cur st

theorem calloutsWalk_bind {β} (d total cur : Nat) (k : List Callout → Rd β) (st : Bytes) :
    (calloutsWalk d total cur >>= k) st = (remaining >>= fun rem => readCallouts (rem + d + 1) total cur >>= k) st := rfl

/-- One turn of the list walk.  Cut inside the callout, the callout fails or comes out short; then the accumulated length stays below
    the declared one, the walk goes on, and the next callout meets at most one byte. -/
theorem calloutsWalk_callout (c : ACallout) (hc : c.WF) (d total cur : Nat) (h : cur + c.size ≤ total) :
    FramesTo (calloutsWalk d total cur) c.enc
      (calloutsWalk (d + (c.enc.length - 1)) total (cur + c.size) >>= fun r => pure (calloutOf c :: r)) := by
  have hge := c.size_ge
  have step : ∀ fuel st, readCallouts (fuel + 1) total cur st = _ := fun fuel st => by rw [readCallouts, if_pos (by omega)]
  constructor
  · intro rest
    show readCallouts ((c.enc ++ rest).length + d + 1) total cur (c.enc ++ rest) = _
    rw [step, bind_ok _ _ _ _ _ (readCallout_exact c hc rest), calloutOf_flattenedSize, calloutsWalk_bind,
      bind_ok remaining _ _ _ _ rfl,
      show (c.enc ++ rest).length + d = rest.length + (d + (c.enc.length - 1)) + 1 by
        have := c.enc_length_ge; rw [List.length_append]; omega]
  · intro k hk
    show ∃ e, readCallouts ((c.enc.take k).length + d + 1) total cur (c.enc.take k) = .error e
    rw [step]
    by_cases hs : (c.enc.take k).length ≤ 1
    · exact bind_fails _ (readCallout_short _ hs)
    · refine (readCallout_cut c hc k hk).bind (Q := fun o => ∃ e, o = .error e) _ (fun e => ⟨e, rfl⟩) fun c' st ⟨hlt, hst⟩ =>
        bind_fails _ ?_
      obtain ⟨n, hn⟩ : ∃ n, (c.enc.take k).length + d = n + 1 := ⟨(c.enc.take k).length + d - 1, by omega⟩
      rw [hn, readCallouts, if_pos (by omega)]
      exact bind_fails _ (readCallout_short st hst)

theorem calloutsWalk_frames (cs : List ACallout) (hcs : ∀ c ∈ cs, c.WF) (d total cur : Nat)
    (ht : total = cur + (cs.map (·.size)).sum) :
    Frames (calloutsWalk d total cur) (cs.flatMap (·.enc)) (cs.map calloutOf) := by
  induction cs generalizing d cur with
  | nil => exact ⟨fun rest => by rw [calloutsWalk, readCallouts, if_neg (by simp at ht; omega)]; rfl, Strict.nil _⟩
  | cons c r ih =>
    simp only [List.map_cons, List.sum_cons] at ht
    exact (calloutsWalk_callout c (hcs c (by simp)) d total cur (by omega)).frames
      ((ih (fun x hx => hcs x (by simp [hx])) _ _ (by omega)).map _)

/-! ### JSON of one callout -/

theorem objFromList_nodup (l : List (Text × J)) (h : (l.map (·.1)).Nodup) : calloutJson.objFromList l = l := by
  unfold calloutJson.objFromList
  exact objUpdate_fresh l [] (by simpa using h)

/-- the keys a callout can have, in the order and the groups in which `renderCallout` puts them -/
def calloutKeys : List Text :=
  [s "FRU Type", s "Priority"] ++ [s "Location Code"] ++ [s "Part Number"] ++ [s "Procedure", s "Description"] ++ [s "CCIN"] ++
    [s "Serial Number"] ++ [s "PCE MTMS", s "PCE Name"] ++ [s "MRU Id"]

theorem calloutKeys_nodup : calloutKeys.Nodup := by
  simp only [calloutKeys, List.cons_append, List.nil_append, List.nodup_cons, List.mem_cons, List.not_mem_nil, s_eq_iff,
    String.reduceEq, or_self, not_false_eq_true, List.nodup_nil, and_self]

theorem sub_ite1 (c : Prop) [Decidable c] (x : Text × J) : ((if c then [x] else []).map (·.1)).Sublist [x.1] := by
  split <;> simp

theorem procDescription_keys (env : SrcEnv) (creator : Text) (allow : Bool) (proc : Text) :
    ((procDescription env creator allow proc).map (·.1)).Sublist [s "Description"] := by
  unfold procDescription
  split
  · simp
  · split
    · split
      · simp [kv]
      · simp
    · simp

theorem renderCallout_nodup (T : Tables) (env : SrcEnv) (creator : Text) (allow : Bool) (c : ACallout) :
    ((renderCallout T env creator allow c).members.map (·.1)).Nodup := by
  refine List.Sublist.nodup ?_ calloutKeys_nodup
  simp only [renderCallout, J.members, calloutKeys, List.map_append]
  repeat' apply List.Sublist.append
  · exact List.Sublist.refl _
  · exact sub_ite1 _ _
  · exact sub_ite1 _ _
  · split
    · rw [List.map_append]
      exact List.Sublist.append (l₂ := [s "Procedure"]) (r₂ := [s "Description"]) (List.Sublist.refl _)
        (procDescription_keys _ _ _ _)
    · simp
  · exact sub_ite1 _ _
  · exact sub_ite1 _ _
  · cases c.pce with
    | none => simp
    | some p =>
      simp only [List.map_append]
      exact List.Sublist.append (l₂ := [s "PCE MTMS"]) (r₂ := [s "PCE Name"]) (sub_ite1 _ _) (sub_ite1 _ _)
  · cases c.mru with
    | none => simp
    | some m => exact List.Sublist.refl _

theorem ite_length_pos {α β} (t : List α) (a b : β) : (if t.length > 0 then a else b) = if t ≠ [] then a else b := by
  cases t <;> simp

theorem mru_ids_hex (m : AMru) (hm : m.WF) :
    m.items.map (fun pi => fmtHex 8 pi.2) = m.items.map (fun pi => hexFix 8 pi.2) := by
  apply List.map_congr_left
  intro a ha
  exact fmtHex_eq_hexFix 8 a.2 (by have := (hm.2.2.2 a ha).2; omega) (by omega)

theorem calloutJson_calloutOf (T : Tables) (env : SrcEnv) (creator : Text) (allow : Bool) (c : ACallout) (hc : c.WF) :
    calloutJson T env creator allow (calloutOf c) = some (renderCallout T env creator allow c) := by
  rw [show renderCallout T env creator allow c = .obj (renderCallout T env creator allow c).members from rfl,
    ← objFromList_nodup _ (renderCallout_nodup T env creator allow c)]
  obtain ⟨hfl, hpr, hll, hla, hfr, hp, hm, hsz⟩ := hc
  unfold calloutJson calloutOf renderCallout J.members
  dsimp only
  have hf0 := and_f0 _ hfr.1
  cases hmru : c.mru with
  | none => cases c.pce <;> simp only [Option.map, fruOf, pceOf, hf0, ite_length_pos] <;> rfl
  | some m =>
    have hids := mru_ids_hex m (hm m hmru)
    cases c.pce <;> simp only [Option.map, fruOf, pceOf, mruOf, hf0, ite_length_pos, hids] <;> rfl

theorem optAllJ_callouts (T : Tables) (env : SrcEnv) (creator : Text) (allow : Bool) (cs : List ACallout) (hcs : ∀ c ∈ cs, c.WF) :
    optAllJ ((cs.map calloutOf).map (calloutJson T env creator allow)) = some (cs.map (renderCallout T env creator allow)) := by
  induction cs with
  | nil => rfl
  | cons c r ih =>
    have hr : ∀ c ∈ r, c.WF := fun x hx => hcs x (by simp [hx])
    simp only [List.map_cons, calloutJson_calloutOf T env creator allow c (hcs c (by simp)), optAllJ, ih hr, Option.map]

theorem frames_decodeCallouts (T : Tables) (env : SrcEnv) (creator : Text) (allow : Bool) (cs : ACalloutSec) (hcs : cs.WF) :
    Frames (decodeCallouts T env creator allow) cs.enc
      (.obj [kv "Callout Count" (jnum cs.callouts.length),
             kv "Callouts" (.arr (cs.callouts.map (renderCallout T env creator allow)))]) := by
  obtain ⟨hid, hfl, hwf, hmod, hlen⟩ := hcs
  have hw := calloutsWalk_frames cs.callouts hwf 0 (cs.total / 4 * 4) 4 (by unfold ACalloutSec.total at hmod ⊢; omega)
  unfold decodeCallouts
  refine Frames.cast (
    .bind (Frames.getInt1 cs.subId hid) <|
    .bind (Frames.getInt1 cs.subFlags hfl) <|
    .bind (Frames.getInt 2 (cs.total / 4) (by omega) (by omega)) <|
    .congr (calloutsWalk_bind 0 _ _ _) <|
    .bind (b := []) hw ?_) (by simp [ACalloutSec.enc]) rfl
  simp only [optAllJ_callouts T env creator allow cs.callouts hwf, List.length_map]
  exact Frames.pure _

/-! ### the SRC section -/

theorem bytesHexL_single (v : Nat) : bytesHexL [v] = hexFixL 2 v := by
  simp [bytesHexL, hexFixL]

theorem ASrc.WF.wordCount_le {x : ASrc} (hx : x.WF) : x.wordCount ≤ 9 := hx.2.2.2.2.1
theorem ASrc.WF.words_lt {x : ASrc} (hx : x.WF) : ∀ w ∈ x.words, w < 2^32 := hx.2.2.2.2.2.2.2.2.1
theorem ASrc.WF.callouts_wf {x : ASrc} (hx : x.WF) : ∀ cs ∈ x.callouts, cs.WF := hx.2.2.2.2.2.2.2.2.2.2.2

theorem ASrc.flags_lt (x : ASrc) (hx : x.WF) : x.flags < 256 := by
  obtain ⟨_, h1, h2, _⟩ := hx
  unfold ASrc.flags; split <;> omega

/-- the registry's answer as `decodeSRC` computes it: only for BMC, power and hostboot SRCs -/
def srcEd (env : SrcEnv) (ascii : Text) (words : List Nat) : ErrDet :=
  let srcType := ascii.take 2
  let isBmc := srcType = s "BD" ∨ srcType = s "11"
  let isHb := srcType = s "BC"
  if isBmc ∨ isHb then errorDetails env.registry ascii words else .none

/-- a hex word as `toJSON` shows it: its key, and its eight digits (kept for the parser module as well) -/
def hexWord (words : List Nat) (i : Nat) : Text × Text := (s "Hex Word " ++ natDec i, fmtHex 8 (words.getD (i - 2) 0))

/-- `for i in range(2, wordCount + 1)` -/
def srcHexw (wordCount : Nat) (words : List Nat) : List (Text × Text) := ((List.range (wordCount + 1)).drop 2).map (hexWord words)

/-- the members `decodeSRC` builds before the callout subsection -/
def srcMembers (T : Tables) (env : SrcEnv) (h : SecHdr) (creator : Text) (verB : Bytes) (flags wordCount : Nat) (words : List Nat)
    (ascii : Text) : List (Text × J) :=
  let srcType := ascii.take 2
  let isBmc := srcType = s "BD" ∨ srcType = s "11"
  let isHb := srcType = s "BC"
  let w (i : Nat) : Nat := words.getD i 0
  [kv "Section Version" (jnum h.ver), kv "Sub-section type" (jnum h.sub),
    kv "Created by" (jstr (displayCompID T h.comp creator)),
    kv "SRC Version" (jstr (ox (bytesHexL verB))),
    kv "SRC Format" (jstr (ox (fmtHex 2 (w 0 &&& 0xFF)))),
    kv "Virtual Progress SRC" (boolStr (flags &&& 0x80 != 0)),
    kv "I5/OS Service Event Bit" (boolStr (flags &&& 0x10 != 0)),
    kv "Hypervisor Dump Initiated" (boolStr (flags &&& 0x04 != 0))] ++
    (if isBmc then [kv "Backplane CCIN" (jstr (fmtHex 4 (w 1 >>> 16))),
                    kv "Terminate FW Error" (boolStr (w 3 &&& 0x20000000 != 0))] else []) ++
    (if isBmc ∨ isHb then [kv "Deconfigured" (boolStr (w 3 &&& 0x02000000 != 0)),
                           kv "Guarded" (boolStr (w 3 &&& 0x01000000 != 0))] ++ (srcEd env ascii words).members else []) ++
    [kv "Valid Word Count" (jstr (ox (fmtHex 2 wordCount))),
     kv "Reference Code" (jstr (stripSp ascii))] ++
    (srcHexw wordCount words).map fun p => (p.1, jstr p.2)

/-- the hex words handed to the parser module, padded to eight -/
def srcHexwords (wordCount : Nat) (words : List Nat) : List Text :=
  (srcHexw wordCount words).map (·.2) ++ List.replicate (8 - (srcHexw wordCount words).length) (s "00000000")

def srcFinish (env : SrcEnv) (creator : Text) (allowPlugins : Bool) (ascii : Text) (hexwords : List Text)
    (withCallouts : List (Text × J)) : Rd (J × Text) :=
  if allowPlugins then
    match srcDetails env creator ascii hexwords with
    | .none => pure (.obj withCallouts, stripSp ascii)
    | .some j => pure (.obj (withCallouts ++ [kv "SRC Details" j]), stripSp ascii)
    | .fail => Rd.fail .other
    | .unsupported => Rd.fail .unsupported
  else pure (.obj withCallouts, stripSp ascii)

/-- what `decodeSRC` does after the fixed part, once the registry look-up has not raised -/
def srcAfterEd (T : Tables) (env : SrcEnv) (h : SecHdr) (creator : Text) (allow : Bool) (verB : Bytes) (flags wordCount : Nat)
    (words : List Nat) (ascii : Text) : Rd (J × Text) :=
  if wordCount ≥ 10 then Rd.fail .other else
    ((if flags &&& 0x01 ≠ 0 then
        (decodeCallouts T env creator allow >>= fun c =>
          pure (srcMembers T env h creator verB flags wordCount words ascii ++ [kv "Callout Section" c]))
      else pure (srcMembers T env h creator verB flags wordCount words ascii)) >>=
      srcFinish env creator allow ascii (srcHexwords wordCount words))

/-- what `decodeSRC` does after the fixed part -/
def srcTail (T : Tables) (env : SrcEnv) (h : SecHdr) (creator : Text) (allow : Bool) (verB : Bytes) (flags wordCount : Nat)
    (words : List Nat) (ascii : Text) : Rd (J × Text) :=
  match srcEd env ascii words with
  | .fail => Rd.fail .other
  | .unsupported => Rd.fail .unsupported
  | _ => srcAfterEd T env h creator allow verB flags wordCount words ascii

theorem decodeSRC_eq (T : Tables) (env : SrcEnv) (h : SecHdr) (creator : Text) (allow : Bool) :
    decodeSRC T env h creator allow =
      (getMem 1 >>= fun verB => getInt 1 >>= fun flags => getInt 1 >>= fun _ => getInt 1 >>= fun wordCount =>
        getInt 2 >>= fun _ => getInt 2 >>= fun _ => getInts 4 8 >>= fun words => getText 32 >>= fun ascii =>
        srcTail T env h creator allow verB flags wordCount words ascii) := by
  unfold decodeSRC srcTail srcAfterEd srcEd
  simp only [ite_bind]
  rfl

theorem ErrDet.members_eq (e : ErrDet) :
    e.members = (match e with | .some ms => [kv "Error Details" (.obj ms)] | _ => []) := by
  cases e <;> rfl

theorem srcTail_of_displayable (T : Tables) (env : SrcEnv) (h : SecHdr) (creator : Text) (allow : Bool) (verB : Bytes)
    (flags : Nat) (x : ASrc) (hd : registryDisplayable env x = true) :
    srcTail T env h creator allow verB flags x.wordCount x.words x.ascii =
      srcAfterEd T env h creator allow verB flags x.wordCount x.words x.ascii := by
  unfold srcTail srcEd
  unfold registryDisplayable at hd
  simp only [← or_assoc] at hd
  split at hd
  · rw [if_pos (by assumption)]
    cases he : errorDetails env.registry x.ascii x.words <;> rw [he] at hd <;> simp at hd <;> rfl
  · rw [if_neg (by assumption)]

theorem srcTail_strict (T : Tables) (env : SrcEnv) (h : SecHdr) (creator : Text) (allow : Bool) (verB : Bytes)
    (flags wordCount : Nat) (words : List Nat) (ascii : Text) (a : Bytes)
    (hs : Strict (srcAfterEd T env h creator allow verB flags wordCount words ascii) a) :
    Strict (srcTail T env h creator allow verB flags wordCount words ascii) a := by
  unfold srcTail
  cases srcEd env ascii words with
  | none => exact hs
  | some ms => exact hs
  | fail => intro k _; exact ⟨_, rfl⟩
  | unsupported => intro k _; exact ⟨_, rfl⟩

theorem ASrc.fmtHex_word (x : ASrc) (hx : x.WF) (i : Nat) : fmtHex 8 (x.words.getD i 0) = hexFix 8 (x.words.getD i 0) :=
  fmtHex_eq_hexFix 8 _ (by have := getD_lt x.words (2^32) (by omega) hx.words_lt i; omega) (by omega)

/-- the prescribed display of a well-formed SRC in the decoder's words: its member list, then the callout subsection and the
    parser module's answer; the bit tests by mask against those by arithmetic, `%X` formats against fixed-width ones -/
theorem renderSrc_eq (T : Tables) (env : SrcEnv) (h : AHdr) (creator : Text) (allow : Bool) (x : ASrc) (hx : x.WF) (id len : Nat) :
    renderSrc T env h creator allow x =
      .obj (srcMembers T env (mkSecHdr id len h) creator [x.version] x.flags x.wordCount x.words x.ascii ++
        (match x.callouts with
          | none => []
          | some cs => [kv "Callout Section" (.obj [kv "Callout Count" (jnum cs.callouts.length),
              kv "Callouts" (.arr (cs.callouts.map (renderCallout T env creator allow)))])]) ++
        (if allow then
          (match srcDetails env creator x.ascii (srcHexwords x.wordCount x.words) with
            | .some j => [kv "SRC Details" j]
            | _ => [])
         else [])) := by
  have hw1 := getD_lt x.words (2^32) (by omega) hx.words_lt 1
  have hwc := hx.wordCount_le
  unfold renderSrc srcMembers srcHexwords srcHexw hexWord srcEd
  simp only [bytesHexL_single, and_pow_ne_zero _ 7, and_pow_ne_zero _ 4, and_pow_ne_zero _ 2, and_pow_ne_zero _ 29,
    and_pow_ne_zero _ 25, and_pow_ne_zero _ 24, and_255, Nat.shiftRight_eq_div_pow _ 16, List.map_map, List.length_map,
    ErrDet.members_eq, Function.comp_def, x.fmtHex_word hx]
  rw [fmtHex_eq_hexFix 2 (x.words.getD 0 0 % 256) (by omega) (by omega),
    fmtHex_eq_hexFix 4 (x.words.getD 1 0 / 65536) (by omega) (by omega),
    fmtHex_eq_hexFix 2 x.wordCount (by omega) (by omega)]
  by_cases hc : (List.take 2 x.ascii = s "BD" ∨ List.take 2 x.ascii = s "11") ∨ List.take 2 x.ascii = s "BC"
  · simp only [if_pos hc]; rfl
  · simp only [if_neg hc]; rfl

theorem srcDisplayable_eq (env : SrcEnv) (creator : Text) (allow : Bool) (x : ASrc) (hx : x.WF) :
    srcDisplayable env creator allow x =
      (registryDisplayable env x &&
      (if !allow then true else
        match srcDetails env creator x.ascii (srcHexwords x.wordCount x.words) with
        | .fail => false
        | .unsupported => false
        | _ => true)) := by
  unfold srcDisplayable srcHexwords srcHexw hexWord
  simp only [List.map_map, List.length_map, Function.comp_def, x.fmtHex_word hx]
  rfl

theorem srcFinish_ok (env : SrcEnv) (creator : Text) (allow : Bool) (ascii : Text) (hexwords : List Text)
    (hd : (if !allow then true else
      match srcDetails env creator ascii hexwords with
      | .fail => false
      | .unsupported => false
      | _ => true) = true) (L : List (Text × J)) (st : Bytes) :
    srcFinish env creator allow ascii hexwords L st =
      .ok ((.obj (L ++ (if allow then
        (match srcDetails env creator ascii hexwords with
          | .some j => [kv "SRC Details" j]
          | _ => [])
       else [])), stripSp ascii), st) := by
  unfold srcFinish
  cases allow with
  | false => simp; rfl
  | true =>
    simp only [if_true] at hd ⊢
    cases hs : srcDetails env creator ascii hexwords with
    | none => simp; rfl
    | some j => rfl
    | fail => rw [hs] at hd; simp at hd
    | unsupported => rw [hs] at hd; simp at hd

theorem ASrc.flags_and1 (x : ASrc) (hx : x.WF) : x.flags &&& 0x01 ≠ 0 ↔ x.callouts.isSome = true := by
  have hev := hx.2.2.1
  rw [Nat.and_one_is_mod]
  unfold ASrc.flags
  cases x.callouts <;> simp <;> omega

theorem srcFixed (T : Tables) (env : SrcEnv) (hdr : SecHdr) (creator : Text) (allow : Bool) (x : ASrc) (hx : x.WF) :
    FramesTo (decodeSRC T env hdr creator allow)
      ([x.version, x.flags, x.resv1, x.wordCount] ++ toBE 2 x.resv2 ++ toBE 2 x.size ++ x.words.flatMap (toBE 4) ++ x.ascii)
      (srcTail T env hdr creator allow [x.version] x.flags x.wordCount x.words x.ascii) := by
  have hfl := x.flags_lt hx
  obtain ⟨hv, hfh, hev, hr1, hwc, hr2, hsz, hwl, hwb, hal, haa, hcs⟩ := hx
  rw [decodeSRC_eq]
  exact FramesTo.cast (
    .bind (Frames.getMem [x.version] (by simp)) <|
    .bind (Frames.getInt1 x.flags hfl) <|
    .bind (Frames.getInt1 x.resv1 hr1) <|
    .bind (Frames.getInt1 x.wordCount (by omega)) <|
    .bind (Frames.getInt 2 x.resv2 (by omega) (by omega)) <|
    .bind (Frames.getInt 2 x.size (by omega) (by omega)) <|
    .bind (hwl ▸ Frames.getInts 4 (by omega) x.words fun v hv => by have := hwb v hv; omega) <|
    .bind (Frames.getTextN 32 x.ascii haa hal (by omega)) <|
    .refl _) (by simp)

/-- exactness: a well-formed SRC body is consumed exactly and displayed as the property prescribes, whatever follows -/
theorem exact_SRC (T : Tables) (env : SrcEnv) (h : AHdr) (creator : Text) (allow : Bool) (x : ASrc) (hx : x.WF)
    (id len : Nat) (hd : srcDisplayable env creator allow x = true) (rest : Bytes) :
    decodeSRC T env (mkSecHdr id len h) creator allow (x.encBody ++ rest) =
      .ok ((renderSrc T env h creator allow x, stripSp x.ascii), rest) := by
  rw [srcDisplayable_eq env creator allow x hx, Bool.and_eq_true] at hd
  rw [ASrc.encBody, List.append_assoc, (srcFixed T env _ creator allow x hx).exact, renderSrc_eq T env h creator allow x hx id len,
    srcTail_of_displayable T env _ creator allow _ _ x hd.1]
  unfold srcAfterEd
  rw [if_neg (by have := hx.wordCount_le; omega)]
  have hfl := x.flags_and1 hx
  cases hc : x.callouts with
  | none =>
    rw [hc] at hfl
    rw [if_neg (by simpa using hfl)]
    show srcFinish env creator allow x.ascii _ _ _ = _
    rw [srcFinish_ok env creator allow x.ascii _ hd.2]
    simp
  | some cs =>
    rw [hc] at hfl
    rw [if_pos (by simpa using hfl)]
    show ((decodeCallouts T env creator allow >>= _) >>= _) (cs.enc ++ rest) = _
    rw [bind_ok _ _ _ _ _ (bind_ok _ _ _ _ _ ((frames_decodeCallouts T env creator allow cs (hx.callouts_wf cs hc)).exact rest))]
    show srcFinish env creator allow x.ascii _ _ _ = _
    rw [srcFinish_ok env creator allow x.ascii _ hd.2]

theorem strict_SRC (T : Tables) (env : SrcEnv) (h : AHdr) (creator : Text) (allow : Bool) (x : ASrc) (hx : x.WF)
    (id len : Nat) (k : Nat) (hk : k < x.encBody.length) :
    ∃ e, decodeSRC T env (mkSecHdr id len h) creator allow (x.encBody.take k) = .error e := by
  refine ((srcFixed T env _ creator allow x hx).strict_append ?_ :
    Strict (decodeSRC T env (mkSecHdr id len h) creator allow) x.encBody) k hk
  have hfl := x.flags_and1 hx
  cases hc : x.callouts with
  | none => exact Strict.nil _
  | some cs =>
    rw [hc] at hfl
    apply srcTail_strict
    unfold srcAfterEd
    rw [if_neg (by have := hx.wordCount_le; omega), if_pos (by simpa using hfl)]
    exact ((frames_decodeCallouts T env creator allow cs (hx.callouts_wf cs hc)).toStrict.bind _).bind _

theorem strict_SRC_nocallouts (T : Tables) (env : SrcEnv) (h : AHdr) (creator : Text) (allow : Bool) (x : ASrc) (hx : x.WF)
    (id len : Nat) (hno : x.callouts = none) (k : Nat) (hk : k < x.encBody.length) :
    ∃ e, decodeSRC T env (mkSecHdr id len h) creator allow (x.encBody.take k) = .error e :=
  strict_SRC T env h creator allow x hx id len k hk

theorem frames_SRC (T : Tables) (env : SrcEnv) (h : AHdr) (creator : Text) (allow : Bool) (x : ASrc) (hx : x.WF) (id len : Nat)
    (hd : srcDisplayable env creator allow x = true) :
    Frames (decodeSRC T env (mkSecHdr id len h) creator allow) x.encBody (renderSrc T env h creator allow x, stripSp x.ascii) :=
  ⟨exact_SRC T env h creator allow x hx id len hd, strict_SRC T env h creator allow x hx id len⟩

end Pel
