import PelProofs.Regex
import PelProofs.Basic
import PelModel.Loaders
/-
  The table loaders (C14 / C15 / C16).  A line IN ANY LAYOUT (arbitrary blank runs where the pattern has `\s*`) is matched by
  walking the pattern along it with the step lemmas of PelProofs/Regex.lean; the matcher has to backtrack in two places only: into
  the alternation of the message group `((?:[^"]|\\")*)` (`msg_star`) and out of the greedy `(.*)` of the string line
  (`step_grp_star_back`).  The three line loops are one loop `loadGo`, and what the properties say about lines outside the table,
  lines that match nothing and printed tables is proved about it.
-/
namespace Pel

def AllSp (w : Text) : Prop := ∀ x ∈ w, isPySpace x = true

theorem allSp_of_all {w : Text} (h : w.all isPySpace = true) : AllSp w := fun x hx => List.all_eq_true.1 h x hx

abbrev rL (x : Nat) : Re := .chr (.lit x)
/-- `(?:[^"]|\\")` -/
abbrev msgBody : Re := .alt (.chr (.notLit 34)) (.seq (.chr (.lit 92)) (.chr (.lit 34)))

theorem isPySpace_not_digit (z : Nat) (h : isPySpace z = true) : CSet.test .digit z = false := by
  simp only [isPySpace, Bool.or_eq_true, beq_iff_eq, Bool.and_eq_true, decide_eq_true_eq] at h
  simp only [CSet.test, Bool.and_eq_false_iff, decide_eq_false_iff_not]
  omega

theorem digit_not_space (d : Nat) (h : 48 ≤ d ∧ d ≤ 57) : CSet.test .space d = false := by
  cases hs : isPySpace d with
  | false => exact hs
  | true => have := isPySpace_not_digit d hs; simp [CSet.test] at this; omega

theorem body_quote (r : Text) (c : Caps) (K : Kont) : msgBody.m (34 :: r) c K = none := by
  simp [Re.m, CSet.test]

theorem body_ok (x : Nat) (r : Text) (c : Caps) (K : Kont) (y : Caps) (hx : x ≠ 34) (h : K r c = some y) :
    msgBody.m (x :: r) c K = some y := by
  simp [Re.m, CSet.test, hx, h]

theorem body_esc (r : Text) (c : Caps) (K : Kont) (h : K (34 :: r) c = none) :
    msgBody.m (92 :: 34 :: r) c K = K r c := by
  simp [Re.m, CSet.test, h]

theorem msg_star_stop (r : Text) (c : Caps) (K : Kont) : (Re.star msgBody).m (34 :: r) c K = K (34 :: r) c := by
  rw [Re.m_star, body_quote]

theorem escapeQuote_cons (x : Nat) (m : Text) :
    escapeQuote (x :: m) = (if x = 34 then [92, 34] else [x]) ++ escapeQuote m := by
  simp [escapeQuote, List.flatMap_cons]

theorem quoteTailsOk_cons (x : Nat) (m : Text) (h : quoteTailsOk (x :: m) = true) :
    (x = 34 → looksLikeParams m = false) ∧ quoteTailsOk m = true := by
  simp only [quoteTailsOk, Bool.and_eq_true, Bool.or_eq_true, bne_iff_ne, ne_eq, Bool.not_eq_true'] at h
  refine ⟨fun e => ?_, h.2⟩
  rcases h.1 with h1 | h1
  · exact absurd e h1
  · exact h1

theorem msg_star (K : Kont) (tail : Text) (c res : Caps)
    (hfail : ∀ m', looksLikeParams m' = false → K (34 :: (escapeQuote m' ++ 34 :: tail)) c = none)
    (hK : K (34 :: tail) c = some res) :
    ∀ msg, quoteTailsOk msg = true → (Re.star msgBody).m (escapeQuote msg ++ 34 :: tail) c K = some res := by
  intro msg
  induction msg with
  | nil =>
    intro _
    show (Re.star msgBody).m (34 :: tail) c K = some res
    rw [msg_star_stop, hK]
  | cons x m ih =>
    intro hq
    obtain ⟨hq1, hq2⟩ := quoteTailsOk_cons x m hq
    have ih' := ih hq2
    rw [escapeQuote_cons]
    by_cases hx : x = 34
    · subst hx
      simp only [if_true, List.cons_append, List.nil_append]
      rw [Re.m_star, body_esc]
      · simp only [List.length_cons, List.length_append]
        rw [if_pos (by omega), ih']
      · simp only [List.length_cons, List.length_append]
        rw [if_pos (by omega), msg_star_stop]
        exact hfail m (hq1 rfl)
    · simp only [if_neg hx, List.cons_append, List.nil_append]
      rw [Re.m_star, body_ok x _ c _ res hx]
      simp only [List.length_cons, List.length_append]
      rw [if_pos (by omega), ih']

/-! ### `strip` and escaping commute -/

/-- dropping a leading run commutes with a `flatMap` that keeps the characters of the run and turns every other
    character into a piece that does not begin with one -/
theorem dropWhile_flatMap (q : Nat → Bool) (f : Nat → List Nat) (hs : ∀ x, q x = true → f x = [x])
    (hn : ∀ x, q x = false → ∃ y t, f x = y :: t ∧ q y = false) :
    ∀ l : List Nat, (l.flatMap f).dropWhile q = (l.dropWhile q).flatMap f := by
  intro l
  induction l with
  | nil => rfl
  | cons x l ih =>
    cases hq : q x with
    | true => simp [hs x hq, hq, ih]
    | false =>
      obtain ⟨y, t, e, hy⟩ := hn x hq
      simp [e, hq, hy]

theorem escapeQuote_piece_sp (x : Nat) (h : isPySpace x = true) : (if x = 34 then [92, 34] else [x]) = [x] := by
  rw [if_neg]; intro e; subst e; revert h; decide

theorem lstripSp_escape (m : Text) : lstripSp (escapeQuote m) = escapeQuote (lstripSp m) :=
  dropWhile_flatMap isPySpace _ escapeQuote_piece_sp (fun x hx => by
    by_cases e : x = 34
    · exact ⟨92, [34], by simp [e], by decide⟩
    · exact ⟨x, [], by simp [e], hx⟩) m

/-- the same from the right: the pieces, reversed, do not begin with a blank either -/
theorem rstripSp_escape (m : Text) : rstripSp (escapeQuote m) = escapeQuote (rstripSp m) := by
  have := dropWhile_flatMap isPySpace (List.reverse ∘ fun c => if c = 34 then [92, 34] else [c])
    (fun x hx => by simp [escapeQuote_piece_sp x hx]) (fun x hx => by
      by_cases e : x = 34
      · exact ⟨34, [92], by simp [e], by decide⟩
      · exact ⟨x, [], by simp [e], hx⟩) m.reverse
  simp only [rstripSp, escapeQuote, List.reverse_flatMap, this]
  simp [Function.comp_def]

theorem dropWhile_escape (m tail : Text) :
    (escapeQuote m ++ 34 :: tail).dropWhile (CSet.test .space) = escapeQuote (lstripSp m) ++ 34 :: tail := by
  have h := lstripSp_escape m
  rw [lstripSp] at h
  rw [List.dropWhile_append, show CSet.test .space = isPySpace from rfl, h]
  split
  · rename_i he
    rw [List.isEmpty_iff.mp he, List.dropWhile_cons_of_neg (by decide)]; rfl
  · rfl

/-- escaped text begins with its first character or, if that is a quote, with a backslash -/
theorem fail_lit_escape {x y : Nat} {r tail : Text} {rest : List Re} {c : Caps} {k : Kont} (hy : y ≠ x) (hx : x ≠ 92) :
    (Re.cat (rL x :: rest)).m (escapeQuote (y :: r) ++ tail) c k = none := by
  rw [escapeQuote_cons]
  by_cases hq : y = 34
  · rw [if_pos hq]; exact fail_lit (Ne.symm hx)
  · rw [if_neg hq]; exact fail_lit hy

/-- behind a quote that is not followed by `\s*,\s*{` the rest of the entry pattern cannot match -/
theorem afterQuote_fail {rest : List Re} {m' tail : Text} {c : Caps} {k : Kont} (h : looksLikeParams m' = false) :
    (Re.cat (rL 34 :: Re.ws :: rL 44 :: Re.ws :: rL 123 :: rest)).m (34 :: (escapeQuote m' ++ 34 :: tail)) c k = none := by
  unfold Re.ws
  rw [step_lit, det_star_lit .space 44 (by decide), dropWhile_escape]
  unfold looksLikeParams at h
  cases hl : lstripSp m' with
  | nil => exact fail_lit (by decide)
  | cons y r =>
    rw [hl] at h
    simp only [Bool.and_eq_false_iff, beq_eq_false_iff_ne, ne_eq] at h
    by_cases hy : y = 44
    · subst hy
      rw [escapeQuote_cons, if_neg (by decide)]
      simp only [List.cons_append, List.nil_append]
      rw [step_lit, det_star_lit .space 123 (by decide), dropWhile_escape]
      cases hl2 : lstripSp r with
      | nil => exact fail_lit (by decide)
      | cons z r' =>
        rw [hl2] at h
        exact fail_lit_escape (by simpa using h) (by decide)
    · exact fail_lit_escape hy (by decide)

theorem step_grp_msg {rest : List Re} {msg tail : Text} {c : Caps} {k : Kont} {res : Caps}
    (hq : quoteTailsOk msg = true)
    (hfail : ∀ m' c', looksLikeParams m' = false → (Re.cat rest).m (34 :: (escapeQuote m' ++ 34 :: tail)) c' k = none)
    (h : (Re.cat rest).m (34 :: tail) ((2, escapeQuote msg) :: c) k = some res) :
    (Re.cat (.grp 2 (.star msgBody) :: rest)).m (escapeQuote msg ++ 34 :: tail) c k = some res := by
  rw [cat_cons]
  simp only [Re.m]
  apply msg_star _ tail c res _ _ msg hq
  · intro m' hm'; exact hfail m' _ hm'
  · simp only [take_len_sub (escapeQuote msg ++ 34 :: tail) (escapeQuote msg) (34 :: tail) rfl]
    exact h

/-- any layout of an entry line: arbitrary blank runs `w0 … w12` at the thirteen `\s*` of the pattern -/
def entryLine (w0 w1 w2 w3 w4 w5 w6 w7 w8 w9 w10 w11 w12 : Text) (p : Nat) (pat E P F : Text) (d : Nat) (ds : Text) : Text :=
  w0 ++ (123 :: (w1 ++ (34 :: (p :: (pat ++ (34 :: (w2 ++ (44 :: (w3 ++ (34 :: (E ++ (34 :: (w4 ++ (44 :: (w5 ++ (123 :: (P ++ (125 :: (w6 ++ (44 :: (w7 ++ (34 :: (F ++ (34 :: (w8 ++ (44 :: (w9 ++ (d :: (ds ++ (w10 ++ (125 :: (w11 ++ (44 :: (w12 ++ []))))))))))))))))))))))))))))))))))

theorem tblEntry_fullmatch {w0 w1 w2 w3 w4 w5 w6 w7 w8 w9 w10 w11 w12 : Text}
    (h0 : AllSp w0) (h1 : AllSp w1) (h2 : AllSp w2) (h3 : AllSp w3) (h4 : AllSp w4) (h5 : AllSp w5) (h6 : AllSp w6)
    (h7 : AllSp w7) (h8 : AllSp w8) (h9 : AllSp w9) (h10 : AllSp w10) (h11 : AllSp w11) (h12 : AllSp w12)
    {p : Nat} {pat msg P F : Text} {d : Nat} {ds : Text}
    (hp : p ≠ 34) (hpat : ∀ x ∈ pat, x ≠ 34) (hmsg : quoteTailsOk msg = true) (hP : ∀ x ∈ P, x ≠ 125)
    (hF : ∀ x ∈ F, x ≠ 34) (hd : 48 ≤ d ∧ d ≤ 57) (hds : ∀ x ∈ ds, 48 ≤ x ∧ x ≤ 57) :
    tblEntryRe.fullmatch (entryLine w0 w1 w2 w3 w4 w5 w6 w7 w8 w9 w10 w11 w12 p pat (escapeQuote msg) P F d ds)
      = some [(5, d :: ds), (4, F), (3, P), (2, escapeQuote msg), (1, p :: pat)] := by
  simp only [Re.fullmatch, entryLine, tblEntryRe, Re.ws, Re.c, Char.reduceToNat]
  rw [star_lit .space 123 h0 (by decide), star_lit .space 34 h1 (by decide)]
  apply step_grp_plus 1 (.notLit 34) (test_notLit hp) (fun x hx => test_notLit (hpat x hx)) (StopsAt.cons (by decide))
  rw [step_lit, star_lit .space 44 h2 (by decide), star_lit .space 34 h3 (by decide)]
  apply step_grp_msg hmsg
  · intro m' c' hm'; exact afterQuote_fail hm'
  rw [step_lit, star_lit .space 44 h4 (by decide), star_lit .space 123 h5 (by decide)]
  apply step_grp_star 3 (.notLit 125) (fun x hx => test_notLit (hP x hx)) (StopsAt.cons (by decide))
  rw [step_lit, star_lit .space 44 h6 (by decide), star_lit .space 34 h7 (by decide)]
  apply step_grp_star 4 (.notLit 34) (fun x hx => test_notLit (hF x hx)) (StopsAt.cons (by decide))
  rw [step_lit, star_lit .space 44 h8 (by decide)]
  apply step_star .space h9 (StopsAt.cons (digit_not_space d hd))
  apply step_grp_plus 5 .digit (test_digit hd) (fun x hx => test_digit (hds x hx))
    (StopsAt.append (fun z hz => isPySpace_not_digit z (h10 z hz)) (StopsAt.cons (by decide)))
  rw [star_lit .space 125 h10 (by decide), star_lit .space 44 h11 (by decide)]
  apply step_star .space h12 (StopsAt.nil _)
  rfl

/-! ### string-file lines -/

theorem noBarBar_tail (x : Nat) (t : Text) (h : noBarBar (x :: t) = true) : noBarBar t = true := by
  cases t with
  | nil => rfl
  | cons y r => simp only [noBarBar, Bool.and_eq_true] at h; exact h.2

theorem noBarBar_suffix (pre s : Text) (h : noBarBar (pre ++ s) = true) : noBarBar s = true := by
  induction pre with
  | nil => exact h
  | cons x pre ih => exact ih (noBarBar_tail x _ h)

theorem noBarBar_snoc (t : Text) (z : Nat) (hz : z ≠ 124) (h : noBarBar t = true) : noBarBar (t ++ [z]) = true := by
  induction t with
  | nil => rfl
  | cons x t ih =>
    cases t with
    | nil => simp [noBarBar, hz]
    | cons y r =>
      simp only [noBarBar, Bool.and_eq_true] at h
      simp only [List.cons_append, noBarBar, Bool.and_eq_true]
      exact ⟨h.1, ih h.2⟩

/-- any layout of a string-file line: blanks around the hash, then `||` format `||` location and an optional newline -/
theorem traceLine_fullmatch {w0 w1 : Text} (h0 : AllSp w0) (h1 : AllSp w1) {d : Nat} {ds fmt loc nl : Text}
    (hd : 48 ≤ d ∧ d ≤ 57) (hds : ∀ x ∈ ds, 48 ≤ x ∧ x ≤ 57) (hfmt : ∀ x ∈ fmt, x ≠ 10) (hloc : ∀ x ∈ loc, x ≠ 10)
    (hbar : noBarBar (124 :: loc) = true) (hnl : nl = [10] ∨ nl = []) :
    traceLineRe.fullmatch (w0 ++ (d :: (ds ++ (w1 ++ (124 :: 124 :: (fmt ++ (124 :: 124 :: (loc ++ nl))))))))
      = some [(3, loc), (2, fmt), (1, d :: ds)] := by
  simp only [Re.fullmatch, traceLineRe, Re.ws, Re.c, Char.reduceToNat]
  apply step_star .space h0 (StopsAt.cons (digit_not_space d hd))
  apply step_grp_plus 1 .digit (test_digit hd) (fun x hx => test_digit (hds x hx))
    (StopsAt.append (fun z hz => isPySpace_not_digit z (h1 z hz)) (StopsAt.cons (by decide)))
  rw [star_lit .space 124 h1 (by decide), step_lit]
  apply step_grp_star_back 2 .dot (fun x hx => test_dot (hfmt x hx))
  · -- every longer split leaves a suffix of `|` location newline, which does not begin with `||`
    intro b1 b2 e hne hall c'
    cases b1 with
    | nil => exact absurd rfl hne
    | cons y b1 =>
      simp only [List.cons_append, List.cons.injEq] at e
      obtain ⟨_, e⟩ := e
      have hs : noBarBar b2 = true := by
        have hx : noBarBar (124 :: (loc ++ nl)) = true := by
          rcases hnl with h | h <;> subst h
          · exact noBarBar_snoc (124 :: loc) 10 (by decide) hbar
          · simpa using hbar
        exact noBarBar_suffix b1 b2 (e ▸ hx)
      cases b2 with
      | nil => exact fail_lit_nil
      | cons u b2 =>
        by_cases hu : u = 124
        · subst hu
          rw [step_lit]
          cases b2 with
          | nil => exact fail_lit_nil
          | cons v b2 =>
            apply fail_lit
            intro hv; subst hv
            simp [noBarBar] at hs
        · exact fail_lit hu
  rw [step_lit, step_lit]
  rcases hnl with h | h <;> subst h
  · apply step_grp_star 3 .dot (fun x hx => test_dot (hloc x hx)) (StopsAt.cons (by decide))
    apply step_opt_lit_some
    rfl
  · apply step_grp_star 3 .dot (fun x hx => test_dot (hloc x hx)) (StopsAt.nil _)
    rw [step_opt_none]
    · rfl
    · rfl

/-! ### history-log field lines -/

theorem hlogField_fullmatch {w0 w1 w2 w3 w4 w5 w6 : Text} (h0 : AllSp w0) (h1 : AllSp w1) (h2 : AllSp w2) (h3 : AllSp w3)
    (h4 : AllSp w4) (h5 : AllSp w5) (h6 : AllSp w6) {sz : Nat} (hsz : sz = 49 ∨ sz = 50) {n : Nat} {name : Text}
    (hn : n ≠ 34) (hname : ∀ x ∈ name, x ≠ 34) :
    hlogFieldRe.fullmatch (w0 ++ 123 :: (w1 ++ sz :: (w2 ++ 44 :: (w3 ++ 34 :: n :: (name ++ 34 :: (w4 ++ 125 :: (w5 ++ 44 :: (w6 ++ []))))))))
      = some [(2, n :: name), (1, [sz])] := by
  have hs : isPySpace sz = false ∧ CSet.test (.oneOf [49, 50]) sz = true := by rcases hsz with h | h <;> subst h <;> decide
  simp only [Re.fullmatch, hlogFieldRe, Re.ws, Re.c, Char.reduceToNat]
  rw [star_lit .space 123 h0 (by decide)]
  apply step_star .space h1 (StopsAt.cons hs.1)
  rw [step_grp_chr 1 (.oneOf [49, 50]) hs.2, star_lit .space 44 h2 (by decide), star_lit .space 34 h3 (by decide)]
  apply step_grp_plus 2 (.notLit 34) (test_notLit hn) (fun y hy => test_notLit (hname y hy)) (StopsAt.cons (by decide))
  rw [step_lit, star_lit .space 125 h4 (by decide)]
  apply step_star .space h5 (StopsAt.cons (by decide))
  apply step_opt_lit_some
  apply step_star .space h6 (StopsAt.nil _)
  rfl

/-! ### entry / field lines do not match the start and end patterns -/

/-- the two start patterns are one pattern with two pairs of names:
    `(\s*static\s+)?\s*struct\s+n1\s+n2.*\=\s*\{?\s*` -/
def startRe (n1 n2 : String) : Re := Re.cat (
  [.opt (.grp 1 (Re.cat ([Re.ws] ++ Re.lits "static" ++ [Re.ws1]))), Re.ws] ++ Re.lits "struct" ++ [Re.ws1] ++
  Re.lits n1 ++ [Re.ws1] ++ Re.lits n2 ++ [.star (.chr .dot), Re.c '=', Re.ws, .opt (Re.c '{'), Re.ws])

theorem tblStartRe_eq : tblStartRe = startRe "pte_entry_struct" "static_pte_entry_table" := rfl
theorem hlogStartRe_eq : hlogStartRe = startRe "mex_hlog_field" "mex_hlog_fields" := rfl

/-- it cannot match a line whose first non-blank character is `{`: with or without `static`, an `s` has to come first -/
theorem startRe_fail_brace (n1 n2 : String) {w0 : Text} (tl : Text) (h0 : AllSp w0) :
    (startRe n1 n2).fullmatch (w0 ++ 123 :: tl) = none := by
  have e1 : Re.lits "static" = rL 115 :: Re.lits "tatic" := rfl
  have e2 : Re.lits "struct" = rL 115 :: Re.lits "truct" := rfl
  simp only [startRe, Re.fullmatch, e1, e2, Re.ws, List.cons_append, List.nil_append]
  rw [step_opt_none, fail_star_lit .space 115 123 h0 (by decide) (by decide) (by decide)]
  exact fail_star_lit .space 115 123 h0 (by decide) (by decide) (by decide)

/-- `\s*\{\s*""…` cannot match an entry whose pattern string is not empty -/
theorem tblEnd_fail_entry {w0 w1 : Text} {p : Nat} (tl : Text) (h0 : AllSp w0) (h1 : AllSp w1) (hp : p ≠ 34) :
    tblEndRe.fullmatch (w0 ++ 123 :: (w1 ++ 34 :: p :: tl)) = none := by
  simp only [Re.fullmatch, tblEndRe, Re.ws, Re.c, Char.reduceToNat, List.cons_append, List.nil_append]
  rw [star_lit .space 123 h0 (by decide), star_lit .space 34 h1 (by decide)]
  exact fail_lit hp

theorem hlogEnd_fail_brace {w0 : Text} (tl : Text) (h0 : AllSp w0) : hlogEndRe.fullmatch (w0 ++ 123 :: tl) = none := by
  simp only [Re.fullmatch, hlogEndRe, Re.ws, Re.c, Char.reduceToNat]
  exact fail_star_lit .space 125 123 h0 (by decide) (by decide) (by decide)

/-! ### the fixed lines of the printed files -/

theorem pteStartLine_start : (tblStartRe.fullmatch pteStartLine).isSome = true := by decide +kernel
theorem openBrace_pte : tblStartRe.fullmatch openBraceLine = none ∧ tblEndRe.fullmatch openBraceLine = none ∧
    tblEntryRe.fullmatch openBraceLine = none := by decide +kernel
theorem pteEndLine_end : tblStartRe.fullmatch pteEndLine = none ∧ (tblEndRe.fullmatch pteEndLine).isSome = true := by decide +kernel
theorem closeBrace_pte : tblStartRe.fullmatch closeBraceLine = none := by decide +kernel
theorem hlogStartLine_start : (hlogStartRe.fullmatch hlogStartLine).isSome = true := by decide +kernel
theorem openBrace_hlog : hlogStartRe.fullmatch openBraceLine = none ∧ hlogEndRe.fullmatch openBraceLine = none ∧
    hlogFieldRe.fullmatch openBraceLine = none := by decide +kernel
theorem closeBrace_hlog : hlogStartRe.fullmatch closeBraceLine = none ∧ (hlogEndRe.fullmatch closeBraceLine).isSome = true := by decide +kernel

/-! ### post-processing undoes the printers -/

theorem escapeQuote_head (m : Text) : (escapeQuote m).head? ≠ some 34 := by
  cases m with
  | nil => simp [escapeQuote]
  | cons x m => rw [escapeQuote_cons]; by_cases hx : x = 34 <;> simp [hx]

theorem unescape_escape (m : Text) : unescapeQuote (escapeQuote m) = m := by
  induction m with
  | nil => rfl
  | cons x m ih =>
    rw [escapeQuote_cons]
    by_cases hx : x = 34
    · simp [hx, unescapeQuote, ih]
    · -- `x` is kept, and is not taken for the backslash of an escape: what follows does not begin with a quote
      have hh := escapeQuote_head m
      cases he : escapeQuote m with
      | nil => rw [he] at ih; simp [hx, unescapeQuote, ← ih]
      | cons b r =>
        rw [he] at hh ih
        have hb : b ≠ 34 := by simpa using hh
        simp [hx, unescapeQuote, ih, hb]

/-- what `_add_entry` makes of a printed message: `strip()` then unescape gives the stripped message -/
theorem message_roundtrip (m : Text) : unescapeQuote (stripSp (escapeQuote m)) = stripSp m := by
  rw [stripSp, lstripSp_escape, rstripSp_escape, unescape_escape]; rfl

theorem paramsOfText_cons (x : Nat) (t : Text) :
    paramsOfText (x :: t) = if 48 ≤ x ∧ x ≤ 57 then (x - 48) :: paramsOfText t else paramsOfText t := by
  unfold paramsOfText
  by_cases h : 48 ≤ x ∧ x ≤ 57
  · rw [List.filter_cons_of_pos (by simp [h.1, h.2]), if_pos h]; rfl
  · rw [List.filter_cons_of_neg (by simp; omega), if_neg h]

theorem paramsOfText_render (ps : List Nat) (h : ∀ p ∈ ps, p < 10) : paramsOfText (renderParams ps) = ps := by
  induction ps using renderParams.induct with
  | case1 => rfl
  | case2 p =>
    have := h p (by simp)
    rw [renderParams, paramsOfText_cons, if_pos (by omega)]
    simp [paramsOfText]
  | case3 p ps hne ih =>
    have := h p (by simp)
    rw [renderParams.eq_3 p ps hne, paramsOfText_cons, if_pos (by omega), paramsOfText_cons, if_neg (by omega),
      paramsOfText_cons, if_neg (by omega), ih (fun q hq => h q (by simp [hq]))]
    simp

theorem renderParams_ascii (ps : List Nat) (h : ∀ p ∈ ps, p < 10) : ∀ x ∈ renderParams ps, x < 128 ∧ x ≠ 125 := by
  induction ps using renderParams.induct with
  | case1 => simp [renderParams]
  | case2 p => have := h p (by simp); simp only [renderParams, List.forall_mem_singleton]; omega
  | case3 p ps hne ih =>
    have := h p (by simp)
    simp only [renderParams.eq_3 p ps hne, List.forall_mem_cons]
    exact ⟨by omega, by omega, by omega, ih (fun q hq => h q (by simp [hq]))⟩

/-! ### the printed lines are instances of the general layouts -/

theorem allSp_nil : AllSp [] := allSp_of_all rfl
theorem allSp_1 : AllSp [32] := allSp_of_all rfl
theorem allSp_2 : AllSp [32, 32] := allSp_of_all rfl
theorem allSp_nl : AllSp [10] := allSp_of_all rfl

theorem PteSrc.wf_parts (e : PteSrc) (h : e.wf = true) :
    (∃ p pat, e.pattern = p :: pat ∧ p ≠ 34 ∧ (∀ x ∈ pat, x ≠ 34)) ∧ e.pattern.any reMetaChar = false ∧
    quoteTailsOk e.msg = true ∧ (∀ p ∈ e.params, p < 10) ∧ (∀ x ∈ e.file, x ≠ 34) ∧ (natDec e.line).length ≤ intMaxStrDigits := by
  unfold PteSrc.wf at h
  simp only [Bool.and_eq_true, Bool.not_eq_true', List.isEmpty_eq_false_iff, List.contains_eq_mem, decide_eq_false_iff_not,
    List.all_eq_true, decide_eq_true_eq, ← List.forall_mem_ne'] at h
  obtain ⟨⟨⟨⟨⟨⟨hne, hq⟩, hmeta⟩, hmsg⟩, hpar⟩, hfile⟩, hline⟩ := h
  obtain ⟨p, pat, hp⟩ := List.exists_cons_of_ne_nil hne
  rw [hp, List.forall_mem_cons] at hq
  exact ⟨⟨p, pat, hp, hq⟩, hmeta, hmsg, hpar, hfile, hline⟩

theorem renderPteLine_loaded (e : PteSrc) (h : e.wf = true) :
    tblStartRe.fullmatch (renderPteLine e) = none ∧ tblEndRe.fullmatch (renderPteLine e) = none ∧
    ∃ caps, tblEntryRe.fullmatch (renderPteLine e) = some caps ∧ addPteEntry caps = some (normalisePte e) := by
  obtain ⟨⟨p, pat, hpat, hp, hpat'⟩, hmeta, hmsg, hpar, hfile, hline⟩ := e.wf_parts h
  obtain ⟨d, ds, hnd, hd, hds, _, _⟩ := natDec_shape e.line
  have hl : renderPteLine e = entryLine [32, 32] [32] [] [32] [] [32] [] [32] [] [32] [32] [] [10] p pat (escapeQuote e.msg)
      (renderParams e.params) e.file d ds := by
    simp only [renderPteLine, entryLine, hpat, hnd, List.cons_append, List.nil_append, List.append_nil]
  refine ⟨?_, ?_, _, hl ▸ tblEntry_fullmatch allSp_2 allSp_1 allSp_nil allSp_1 allSp_nil allSp_1 allSp_nil
      allSp_1 allSp_nil allSp_1 allSp_1 allSp_nil allSp_nl hp hpat' hmsg
      (fun x hx => (renderParams_ascii e.params hpar x hx).2) hfile hd hds, ?_⟩
  · rw [hl, tblStartRe_eq]; exact startRe_fail_brace _ _ _ allSp_2
  · rw [hl]; exact tblEnd_fail_entry _ allSp_2 allSp_1 hp
  · have hlen : ¬ (d :: ds).length > intMaxStrDigits := by rw [← hnd]; omega
    have hasc : (renderParams e.params).any (· ≥ 128) = false := by
      rw [List.any_eq_false]; intro x hx; have := (renderParams_ascii e.params hpar x hx).1; simp; omega
    simp only [addPteEntry, capGet_cons, Nat.reduceEqDiff, if_true, hlen, if_false, hasc, ← hpat, hmeta, Bool.false_eq_true]
    rw [message_roundtrip, paramsOfText_render _ hpar, ← hnd, decVal_natDec]
    rfl

theorem renderHlogLine_loaded (f : HlogField) (h : hlogFieldWf f = true) :
    hlogStartRe.fullmatch (renderHlogLine f) = none ∧ hlogEndRe.fullmatch (renderHlogLine f) = none ∧
    ∃ caps, hlogFieldRe.fullmatch (renderHlogLine f) = some caps ∧ addHlogField caps = some f := by
  obtain ⟨name, size⟩ := f
  unfold hlogFieldWf at h
  simp only [Bool.and_eq_true, Bool.or_eq_true, beq_iff_eq, Bool.not_eq_true', List.isEmpty_eq_false_iff, List.contains_eq_mem,
    decide_eq_false_iff_not, ← List.forall_mem_ne'] at h
  obtain ⟨⟨hsz, hne⟩, hq⟩ := h
  cases name with
  | nil => exact absurd rfl hne
  | cons n name =>
    obtain ⟨hn, hname⟩ := List.forall_mem_cons.1 hq
    have hl : renderHlogLine (n :: name, size) =
        [32, 32] ++ 123 :: ([32] ++ (48 + size) :: ([] ++ 44 :: ([32] ++ 34 :: n :: (name ++ 34 :: ([32] ++ 125 :: ([] ++ 44 :: ([10] ++ []))))))) := by
      simp [renderHlogLine]
    have hs : 48 + size = 49 ∨ 48 + size = 50 := by omega
    refine ⟨?_, ?_, _, hl ▸ hlogField_fullmatch allSp_2 allSp_1 allSp_nil allSp_1 allSp_1 allSp_nil allSp_nl hs hn hname, ?_⟩
    · rw [hl, hlogStartRe_eq]; exact startRe_fail_brace _ _ _ allSp_2
    · rw [hl]; exact hlogEnd_fail_brace _ allSp_2
    · rcases hsz with h | h <;> subst h <;> rfl

theorem traceStringWf_parts (t : TraceString) (h : traceStringWf t = true) :
    (∀ x ∈ t.fmt, x ≠ 10) ∧ (∀ x ∈ t.location, x ≠ 10) ∧ noBarBar (124 :: t.location) = true ∧
    (natDec t.hash).length ≤ intMaxStrDigits := by
  unfold traceStringWf at h
  simpa only [Bool.and_eq_true, Bool.not_eq_true', List.contains_eq_mem, decide_eq_false_iff_not, decide_eq_true_eq,
    ← List.forall_mem_ne', and_assoc] using h

theorem renderStringLine_loaded (t : TraceString) (h : traceStringWf t = true) :
    ∃ caps, traceLineRe.fullmatch (renderStringLine t) = some caps ∧ addTraceString caps = some (normaliseTraceString t) := by
  obtain ⟨hfmt, hloc, hbar, hlen⟩ := traceStringWf_parts t h
  obtain ⟨d, ds, hnd, hd, hds, _, _⟩ := natDec_shape t.hash
  have hl : renderStringLine t = [] ++ (d :: (ds ++ ([] ++ (124 :: 124 :: (t.fmt ++ (124 :: 124 :: (t.location ++ [10]))))))) := by
    simp only [renderStringLine, hnd, List.cons_append, List.nil_append]
  refine ⟨_, hl ▸ traceLine_fullmatch allSp_nil allSp_nil hd hds hfmt hloc hbar (Or.inl rfl), ?_⟩
  have hns : ∀ x ∈ d :: ds, isPySpace x = false := fun x hx => digit_not_space x (natDec_digits t.hash x (hnd ▸ hx))
  have hlen' : ¬ (d :: ds).length > intMaxStrDigits := by rw [← hnd]; omega
  simp only [addTraceString, capGet_cons, Nat.reduceEqDiff, if_true, stripSp_nospace _ hns, hlen', if_false]
  rw [← hnd, decVal_natDec]
  rfl

/-! ### the line loop of the three loaders

`loadPteGo` and `loadHlogGo` are the same loop over different patterns, and `loadTraceStrings` is that loop for a
file that is all table: `loadGo` is the loop, and what is proved about a loader's line loop is proved about it. -/

/-- `step l` is what an entry line contributes: `none` = the line is no entry line (skipped), `some none` = an entry
    that the loader cannot store (the load is abandoned), `some (some e)` = the entry `e` -/
def loadGo {α} (isStart isEnd : Text → Bool) (step : Text → Option (Option α)) : Bool → List Text → Option (List α)
  | _, [] => some []
  | inside, l :: ls =>
    if isStart l then loadGo isStart isEnd step true ls
    else if isEnd l then loadGo isStart isEnd step false ls
    else if inside then
      match step l with
      | some (some e) => (loadGo isStart isEnd step true ls).map (e :: ·)
      | some none => none
      | none => loadGo isStart isEnd step true ls
    else loadGo isStart isEnd step false ls

section
variable {α : Type} (isStart isEnd : Text → Bool) (step : Text → Option (Option α))

theorem loadGo_start (l : Text) (ls : List Text) (st : Bool) (h : isStart l = true) :
    loadGo isStart isEnd step st (l :: ls) = loadGo isStart isEnd step true ls := by
  rw [loadGo, if_pos h]

theorem loadGo_end (l : Text) (ls : List Text) (st : Bool) (h : isStart l = false) (h' : isEnd l = true) :
    loadGo isStart isEnd step st (l :: ls) = loadGo isStart isEnd step false ls := by
  rw [loadGo, if_neg (by simp [h]), if_pos h']

theorem loadGo_append_of_outside (pre rest : List Text) (h : ∀ l ∈ pre, isStart l = false) :
    loadGo isStart isEnd step false (pre ++ rest) = loadGo isStart isEnd step false rest := by
  induction pre with
  | nil => rfl
  | cons l pre ih =>
    have ih' := ih (fun x hx => h x (List.mem_cons_of_mem _ hx))
    simp only [List.cons_append, loadGo, h l (List.mem_cons_self ..), Bool.false_eq_true, if_false, ih', ite_self]

theorem loadGo_outside (post : List Text) (h : ∀ l ∈ post, isStart l = false) :
    loadGo isStart isEnd step false post = some [] := by
  have := loadGo_append_of_outside isStart isEnd step post [] h
  rwa [List.append_nil] at this

theorem loadGo_entries {β} (render : β → Text) (norm : β → α) (xs : List β) (rest : List Text)
    (h : ∀ x ∈ xs, isStart (render x) = false ∧ isEnd (render x) = false ∧ step (render x) = some (some (norm x))) :
    loadGo isStart isEnd step true (xs.map render ++ rest) =
      (loadGo isStart isEnd step true rest).map (xs.map norm ++ ·) := by
  induction xs with
  | nil => simp
  | cons x xs ih =>
    obtain ⟨h1, h2, h3⟩ := h x (List.mem_cons_self ..)
    simp only [List.map_cons, List.cons_append, loadGo, h1, h2, h3, Bool.false_eq_true, if_false, if_true,
      ih (fun y hy => h y (List.mem_cons_of_mem _ hy)), Option.map_map]
    rfl

theorem loadGo_skip_line (bad : Text) (h1 : isStart bad = false) (h2 : isEnd bad = false) (h3 : step bad = none)
    (a b : List Text) : ∀ st, loadGo isStart isEnd step st (a ++ bad :: b) = loadGo isStart isEnd step st (a ++ b) := by
  induction a with
  | nil => intro st; cases st <;> simp [loadGo, h1, h2, h3]
  | cons l a ih => intro st; simp only [List.cons_append, loadGo, ih]

/-- a printed table: start line, a line that is skipped, the entry lines, the end line, and no further start line -/
theorem loadGo_table {β} (render : β → Text) (norm : β → α) (startL skipL endL : Text) (xs : List β) (post : List Text)
    (hs : isStart startL = true) (hk : isStart skipL = false ∧ isEnd skipL = false ∧ step skipL = none)
    (hx : ∀ x ∈ xs, isStart (render x) = false ∧ isEnd (render x) = false ∧ step (render x) = some (some (norm x)))
    (he : isStart endL = false ∧ isEnd endL = true) (hpost : ∀ l ∈ post, isStart l = false) :
    loadGo isStart isEnd step false (startL :: skipL :: (xs.map render ++ endL :: post)) = some (xs.map norm) := by
  have h := loadGo_skip_line isStart isEnd step skipL hk.1 hk.2.1 hk.2.2 [] (xs.map render ++ endL :: post) true
  rw [List.nil_append, List.nil_append] at h
  rw [loadGo_start isStart isEnd step startL _ _ hs, h, loadGo_entries isStart isEnd step render norm xs _ hx,
    loadGo_end isStart isEnd step endL _ _ he.1 he.2, loadGo_outside isStart isEnd step post hpost]
  simp
end

/-! ### the three loaders as instances -/

abbrev pteStep (l : Text) : Option (Option PteRow) := (tblEntryRe.fullmatch l).map addPteEntry
abbrev hlogStep (l : Text) : Option (Option HlogField) := (hlogFieldRe.fullmatch l).map addHlogField
abbrev traceStep (l : Text) : Option (Option TraceString) := (traceLineRe.fullmatch l).map addTraceString

theorem loadPteGo_eq (ls : List Text) : ∀ st, loadPteGo st ls =
    loadGo (fun l => (tblStartRe.fullmatch l).isSome) (fun l => (tblEndRe.fullmatch l).isSome) pteStep st ls := by
  induction ls with
  | nil => intro st; rfl
  | cons l ls ih =>
    intro st
    simp only [loadPteGo, loadGo, ih, pteStep]
    cases tblEntryRe.fullmatch l with
    | none => rfl
    | some caps => simp only [Option.map_some]; cases addPteEntry caps <;> rfl

theorem loadHlogGo_eq (ls : List Text) : ∀ st, loadHlogGo st ls =
    loadGo (fun l => (hlogStartRe.fullmatch l).isSome) (fun l => (hlogEndRe.fullmatch l).isSome) hlogStep st ls := by
  induction ls with
  | nil => intro st; rfl
  | cons l ls ih =>
    intro st
    simp only [loadHlogGo, loadGo, ih, hlogStep]
    cases hlogFieldRe.fullmatch l with
    | none => rfl
    | some caps => simp only [Option.map_some]; cases addHlogField caps <;> rfl

/-- the string file has no start and end lines: the whole file is inside the table -/
theorem loadTraceStrings_eq (ls : List Text) :
    loadTraceStrings ls = loadGo (fun _ => false) (fun _ => false) traceStep true ls := by
  induction ls with
  | nil => rfl
  | cons l ls ih =>
    simp only [loadTraceStrings, loadGo, ih, traceStep]
    cases traceLineRe.fullmatch l with
    | none => rfl
    | some caps => simp only [Option.map_some]; cases addTraceString caps <;> rfl

theorem pte_header_loaded (tbl : List PteSrc) (hwf : ∀ e ∈ tbl, e.wf = true) (post : List Text)
    (hpost : ∀ l ∈ post, tblStartRe.fullmatch l = none) :
    loadPteGo false (renderPteHeader tbl ++ post) = some (tbl.map normalisePte) := by
  rw [loadPteGo_eq, renderPteHeader]
  simp only [List.cons_append, List.append_assoc, List.nil_append]
  refine loadGo_table _ _ _ renderPteLine normalisePte _ _ _ tbl (closeBraceLine :: post) (by simp [pteStartLine_start])
    (by simp [openBrace_pte, pteStep]) ?_ (by simp [pteEndLine_end]) ?_
  · intro e he
    obtain ⟨h1, h2, caps, h3, h4⟩ := renderPteLine_loaded e (hwf e he)
    simp [pteStep, h1, h2, h3, h4]
  · intro l hl
    rcases List.mem_cons.mp hl with rfl | hl
    · simp [closeBrace_pte]
    · simp [hpost l hl]

theorem hlog_header_loaded (fs : List HlogField) (hwf : ∀ f ∈ fs, hlogFieldWf f = true) (post : List Text)
    (hpost : ∀ l ∈ post, hlogStartRe.fullmatch l = none) :
    loadHlogGo false (renderHlogHeader fs ++ post) = some fs := by
  rw [loadHlogGo_eq, renderHlogHeader]
  simp only [List.cons_append, List.append_assoc, List.nil_append]
  have := loadGo_table (fun l => (hlogStartRe.fullmatch l).isSome) (fun l => (hlogEndRe.fullmatch l).isSome) hlogStep
    renderHlogLine id hlogStartLine openBraceLine closeBraceLine fs post (by simp [hlogStartLine_start])
    (by simp [openBrace_hlog, hlogStep]) ?_ (by simp [closeBrace_hlog]) (fun l hl => by simp [hpost l hl])
  · simpa using this
  · intro f hf
    obtain ⟨h1, h2, caps, h3, h4⟩ := renderHlogLine_loaded f (hwf f hf)
    simp [hlogStep, h1, h2, h3, h4]

theorem loadTraceStrings_rendered (ss : List TraceString) (hwf : ∀ t ∈ ss, traceStringWf t = true) (rest : List Text) :
    loadTraceStrings (ss.map renderStringLine ++ rest) = (loadTraceStrings rest).map (ss.map normaliseTraceString ++ ·) := by
  simp only [loadTraceStrings_eq]
  refine loadGo_entries _ _ _ renderStringLine normaliseTraceString ss rest fun t ht => ?_
  obtain ⟨caps, h3, h4⟩ := renderStringLine_loaded t (hwf t ht)
  simp [traceStep, h3, h4]

end Pel
