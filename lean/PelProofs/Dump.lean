import PelModel.Dump
import PelProofs.HexDumpParse
/- Lemmas about the I/O-drawer dump splitter (C17): header search, sorting, region slicing,
   and the template auto-detection of `parseDumpFile`. -/
namespace Pel

theorem findSub_eq_some (pat : Bytes) : ∀ (b : Bytes) (i k : Nat), findSub pat b i = some k →
    ∃ m, k = i + m ∧ m ≤ b.length ∧ pat.isPrefixOf (b.drop m) = true ∧ ∀ j, j < m → pat.isPrefixOf (b.drop j) = false
  | [], i, k, h => by
    rw [findSub] at h
    split at h
    · rename_i he
      exact ⟨0, by simpa using h.symm, Nat.le_refl _, by simp [List.isEmpty_iff.1 he], by omega⟩
    · cases h
  | x :: r, i, k, h => by
    rw [findSub] at h
    split at h
    · rename_i hp
      exact ⟨0, by simpa using h.symm, by simp, hp, by omega⟩
    · rename_i hp
      obtain ⟨m, rfl, h2, h3, h4⟩ := findSub_eq_some pat r (i + 1) k h
      refine ⟨m + 1, by omega, by simpa using h2, h3, fun j hj => ?_⟩
      cases j with
      | zero => exact Bool.eq_false_iff.mpr hp
      | succ j => exact h4 j (by omega)

theorem findSub_eq_none (pat : Bytes) : ∀ (b : Bytes) (i : Nat), findSub pat b i = none →
    ∀ j, j ≤ b.length → pat.isPrefixOf (b.drop j) = false := by
  intro b
  induction b with
  | nil =>
    intro i h j hj
    simp only [findSub] at h
    split at h
    · simp at h
    · rename_i he
      cases pat with
      | nil => simp at he
      | cons p ps => simp
  | cons x r ih =>
    intro i h j hj
    simp only [findSub] at h
    split at h
    · simp at h
    · rename_i hp
      cases j with
      | zero => exact Bool.eq_false_iff.mpr hp
      | succ j =>
        rw [List.drop_succ_cons]
        exact ih (i + 1) h j (by simpa using hj)

theorem mem_insertSorted (a x : Nat) : ∀ (l : List Nat), x ∈ insertSorted a l ↔ x = a ∨ x ∈ l := by
  intro l
  induction l with
  | nil => simp [insertSorted]
  | cons y ys ih => simp only [insertSorted]; split <;> simp [ih, or_left_comm]

theorem pairwise_insertSorted (a : Nat) : ∀ (l : List Nat), l.Pairwise (· ≤ ·) →
    (insertSorted a l).Pairwise (· ≤ ·) := by
  intro l
  induction l with
  | nil => intro _; simp [insertSorted]
  | cons y ys ih =>
    intro h
    rw [List.pairwise_cons] at h
    simp only [insertSorted]
    split
    · rename_i hay
      rw [List.pairwise_cons]
      refine ⟨?_, List.pairwise_cons.mpr h⟩
      intro z hz
      rcases List.mem_cons.mp hz with rfl | hz
      · exact hay
      · exact Nat.le_trans hay (h.1 z hz)
    · rename_i hay
      rw [List.pairwise_cons]
      refine ⟨?_, ih h.2⟩
      intro z hz
      rcases (mem_insertSorted a z ys).mp hz with rfl | hz
      · omega
      · exact h.1 z hz

theorem mem_sortNat (x : Nat) : ∀ (l : List Nat), x ∈ sortNat l ↔ x ∈ l := by
  intro l
  induction l with
  | nil => simp [sortNat]
  | cons y ys ih => simp [sortNat, mem_insertSorted, ih]

theorem pairwise_sortNat : ∀ (l : List Nat), (sortNat l).Pairwise (· ≤ ·) := by
  intro l
  induction l with
  | nil => simp [sortNat]
  | cons y ys ih => exact pairwise_insertSorted y _ ih

theorem mem_bufferOffsets (b : Bytes) (o : Nat) :
    o ∈ bufferOffsets b ↔ ∃ nm ∈ bufferNames, findSub (traceHeaderStart ++ nm) b 0 = some o := by
  unfold bufferOffsets
  rw [mem_sortNat, List.mem_filterMap]

theorem bufferOffsets_pairwise (b : Bytes) : (bufferOffsets b).Pairwise (· ≤ ·) :=
  pairwise_sortNat _

theorem bufferOffsets_le (b : Bytes) : ∀ o ∈ bufferOffsets b, o ≤ b.length := by
  intro o ho
  obtain ⟨nm, _, h⟩ := (mem_bufferOffsets b o).mp ho
  obtain ⟨m, rfl, hm, _⟩ := findSub_eq_some _ b 0 o h
  omega

/-- below every buffer offset, and inside the data, no header pattern occurs: an occurrence would itself be found, and its
    index would be an offset -/
theorem no_header_below (b : Bytes) (m : Nat) (hm : ∀ o ∈ bufferOffsets b, m ≤ o) (nm : Bytes) (hnm : nm ∈ bufferNames)
    (j : Nat) (hj : j < m) (hjb : j ≤ b.length) : (traceHeaderStart ++ nm).isPrefixOf (b.drop j) = false := by
  cases hf : findSub (traceHeaderStart ++ nm) b 0 with
  | none => exact findSub_eq_none _ b 0 hf j hjb
  | some k =>
    obtain ⟨_, rfl, _, _, h⟩ := findSub_eq_some _ b 0 k hf
    have := hm _ ((mem_bufferOffsets b _).mpr ⟨nm, hnm, hf⟩)
    exact h j (by omega)

/-! ### regions -/

theorem take_drop_append_drop (b : Bytes) (o o' : Nat) (h : o ≤ o') :
    (b.drop o).take (o' - o) ++ b.drop o' = b.drop o := by
  have e : b.drop o' = (b.drop o).drop (o' - o) := by
    rw [List.drop_drop]; congr 1; omega
  rw [e, List.take_append_drop]

theorem traceRegions_flatten (b : Bytes) : ∀ (os : List Nat) (o : Nat), (o :: os).Pairwise (· ≤ ·) →
    (traceRegions b (o :: os)).flatten = b.drop o := by
  intro os
  induction os with
  | nil => intro o _; simp [traceRegions]
  | cons o' os ih =>
    intro o h
    rw [List.pairwise_cons] at h
    simp only [traceRegions, List.flatten_cons]
    rw [ih o' h.2]
    exact take_drop_append_drop b o o' (h.1 o' (by simp))

theorem regions_partition (b : Bytes) (offs : List Nat) (h : offs.Pairwise (· ≤ ·)) :
    ilogRegion b offs ++ (traceRegions b offs).flatten = b := by
  cases offs with
  | nil => simp [ilogRegion, traceRegions]
  | cons o os =>
    rw [traceRegions_flatten b os o h]
    simp [ilogRegion]

/-! ### pre-BMC lines under the BMC template -/

/-- the third address cell of the BMC template meets the blank behind the first byte -/
theorem parseGo_bmc_preRaw (ck : Bytes) (hne : ck ≠ []) (R : Text) : parseGo fmtBmc (preRaw ck ++ R) none [] = [] := by
  match ck, hne with
  | b :: bs, _ =>
    rw [fmtBmc_lit]
    show parseGo ([chA, chA] ++ chA :: _) ([hexU (b / 16), hexU b] ++ 32 :: _) none [] = []
    rw [parseGo_skips [chA, chA] [hexU (b / 16), hexU b] (by simp [skips, passes, isHexDigit_hexU])]
    simp [parseGo, isHexDigit]

theorem parseLine_bmc_preLine (pad : Bool) (ck : Bytes) (hne : ck ≠ []) : parseLine fmtBmc (preLine pad ck) = [] := by
  unfold parseLine
  simp only [preLine_rstrip pad ck hne]
  split
  · cases pad with
    | true =>
      simp only [preLine, if_true, ljust, List.append_assoc]
      exact parseGo_bmc_preRaw ck hne _
    | false =>
      simp only [preLine, Bool.false_eq_true, if_false]
      have := parseGo_bmc_preRaw ck hne []
      simpa using this
  · rfl

theorem parseDump_bmc_of_pre (pad : Bool) (b : Bytes) (text : List Text)
    (h : (text.map rstripNL).filter (fun t => !isNoise t) = renderPre pad b) :
    parseDump fmtBmc text = [] := by
  rw [parseDump_real_lines fmtBmc fmtBmc_head, h, renderPre_eq, parseDump,
    List.flatMap_eq_nil_iff]
  intro t ht
  obtain ⟨p, hp, rfl⟩ := List.mem_map.mp ht
  exact parseLine_bmc_preLine pad p.2 (mem_chunks (by omega) hp).1

theorem parseDump_all_noise (fmt : Text) (hf : fmt.head? = some chA ∨ fmt.head? = some chD) (text : List Text)
    (h : (text.map rstripNL).filter (fun t => !isNoise t) = []) : parseDump fmt text = [] := by
  rw [parseDump_real_lines fmt hf, h]; rfl

end Pel
