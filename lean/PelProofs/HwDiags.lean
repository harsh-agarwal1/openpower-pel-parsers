import PelModel.HwDiags
import PelModel.TransSrc
import PelProofs.JsonText
import PelProofs.Frames
import PelProofs.HexDump
/- Hardware-diagnostics sections (C20): the fields of a signature for either case of the hex words, the look-ups' fall-backs, and the
   signature-list and register-dump readers on the encoding of a list of records. -/
namespace Pel

/-- the fields `getSignature` extracts from three 8-digit words; `fix` is `hexFix` or `hexFixL` -/
theorem getSignature_with (dig : Nat → Nat) (hdig : ∀ x, hexVal (dig x) = x % 16) (fix : Nat → Nat → Text)
    (hfix : ∀ n v, fix n v = hexFixWith dig n v) (cd : List ChipData) (a b c : Nat) (hb : b < 2 ^ 32) :
    getSignature cd (fix 8 a) (fix 8 b) (fix 8 c) =
      .obj [(s "Chip Desc", .str (chipDesc cd (fix 8 a) (b / 256 % 256) (b / 65536))),
            (s "Signature", .str (sigDesc cd (fix 8 a) (fix 4 (c / 65536)) (c / 256 % 256) (c % 256))),
            (s "Attn Type", .str (attnDesc cd (fix 8 a) (b % 256)))] := by
  have take4 : ∀ v, (hexFixWith dig 8 v).take 4 = hexFixWith dig 4 (v / 65536) := hexFixWith_take dig 4 4
  have mid : ∀ v, ((hexFixWith dig 8 v).drop 4).take 2 = hexFixWith dig 2 (v / 256) := fun v => by
    rw [hexFixWith_drop dig 4 4 v]; exact hexFixWith_take dig 2 2 v
  have last : ∀ v, ((hexFixWith dig 8 v).drop 6).take 2 = hexFixWith dig 2 v := fun v => by
    rw [hexFixWith_drop dig 6 2 v]; exact List.take_of_length_le (by rw [hexFixWith_length]; exact Nat.le_refl 2)
  have p2 : ∀ v, parseHexText (hexFixWith dig 2 v) = v % 256 := parseHexText_hexFixWith dig hdig 2
  have p4 : parseHexText (hexFixWith dig 4 (b / 65536)) = b / 65536 := by
    rw [parseHexText_hexFixWith dig hdig]; show _ % 65536 = _; omega
  simp only [hfix, getSignature, take4, mid, last, p2, p4]

theorem lowerT_upperT (t : Text) : lowerT (upperT t) = lowerT t := by
  simp [lowerT, upperT, List.map_map, Function.comp_def, toLower_toUpper]
theorem lowerT_lowerT (t : Text) : lowerT (lowerT t) = lowerT t := map_lower_idem t

theorem upperT_lowerT_hexFix (n v : Nat) : upperT (lowerT (hexFix n v)) = hexFix n v :=
  (congrArg upperT (map_lower_hexFix n v)).trans (map_upper_hexFixL n v)
theorem upperT_lowerT_hexFixL (n v : Nat) : upperT (lowerT (hexFixL n v)) = hexFix n v :=
  (congrArg upperT (map_lower_hexFixL n v)).trans (map_upper_hexFixL n v)

/-! ### look-ups: fall-backs and case-insensitivity -/

theorem s_unknown : s " unknown " = [32] ++ s "unknown" ++ [32] := by rw [s_ofList, s_ofList]; decide

theorem chipDesc_none (cd : List ChipData) (ec : Text) (node chip : Nat) (h : chipFor cd ec = none) :
    chipDesc cd ec node chip = s "node " ++ natDec node ++ s " unknown " ++ natDec chip ++ s " (" ++ upperT (lowerT ec) ++ s ")" := by
  simp only [chipDesc, h, Option.bind_none, Option.getD_none, s_unknown, List.append_assoc]

theorem sigDesc_noentry (cd : List ChipData) (ec sid : Text) (inst bit : Nat)
    (h : ((chipFor cd ec).bind (·.signatures)).bind (fun m => lookup3 m (lowerT sid)) = none) :
    sigDesc cd ec sid inst bit = s "id:" ++ upperT (lowerT sid) ++ s "(" ++ natDec inst ++ s ")[" ++ natDec bit ++ s "] " := by
  simp only [sigDesc, h, Option.map_none, Option.bind_none, Option.getD_none, List.append_nil]

theorem attnDesc_none (cd : List ChipData) (ec : Text) (attn : Nat) (h : chipFor cd ec = none) :
    attnDesc cd ec attn = natDec attn := by
  simp only [attnDesc, h, Option.bind_none, Option.getD_none]

theorem chipFor_nil (ec : Text) : chipFor [] ec = none := rfl

/-- without chip data the three strings hold the raw numbers; the words are shown in upper case -/
theorem getSignature_nil (dig : Nat → Nat) (hdig : ∀ x, hexVal (dig x) = x % 16) (fix : Nat → Nat → Text)
    (hfix : ∀ n v, fix n v = hexFixWith dig n v) (hup : ∀ n v, upperT (lowerT (fix n v)) = hexFix n v)
    (a b c : Nat) (hb : b < 2^32) : getSignature [] (fix 8 a) (fix 8 b) (fix 8 c) = specSignatureNoData a b c := by
  rw [getSignature_with dig hdig fix hfix [] a b c hb, chipDesc_none _ _ _ _ (chipFor_nil _),
    sigDesc_noentry _ _ _ _ _ (by rw [chipFor_nil]; rfl), attnDesc_none _ _ _ (chipFor_nil _), hup, hup]
  rfl

theorem chipFor_upper (cd : List ChipData) (ec : Text) : chipFor cd (upperT ec) = chipFor cd (lowerT ec) := by
  show cd.reverse.find? (fun c => c.id == lowerT (upperT ec)) = cd.reverse.find? (fun c => c.id == lowerT (lowerT ec))
  rw [lowerT_upperT, lowerT_lowerT]

/-! ### `bytes.hex()` -/

theorem bytesHexL_append (a b : Bytes) : bytesHexL (a ++ b) = bytesHexL a ++ bytesHexL b := by
  simp [bytesHexL]

theorem hexL_congr {a b : Nat} (h : a % 16 = b % 16) : hexL a = hexL b := by
  unfold hexL; rw [h]

theorem bytesHexL_toBE (n v : Nat) : bytesHexL (toBE n v) = hexFixL (2 * n) v := by
  induction n generalizing v with
  | zero => rfl
  | succ n ih =>
    show _ = hexFixL (2 * n + 1 + 1) v
    simp only [toBE, bytesHexL_append, ih, hexFixL, List.append_assoc]
    have : v / 16 / 16 = v / 256 := by omega
    rw [this]
    simp [bytesHexL, hexL_congr (show v % 256 / 16 % 16 = v / 16 % 16 by omega), hexL_congr (show v % 256 % 16 = v % 16 by omega)]

theorem bytesHexL_length (a : Bytes) : (bytesHexL a).length = 2 * a.length := by
  induction a with
  | nil => rfl
  | cons x a ih => simp only [bytesHexL, List.flatMap_cons] at *; simp [ih]; omega

/-! ### signature lists and register dumps: one step per record

The model's readers recurse on the count; each is `rdRepeat` of the reader of one record.  Both the round trips of C20 and the
source tie (PelProofs/TieOe500.lean, where the loops of the source arrive as `rdRepeat`) go through these steps. -/

def sigStep (cd : List ChipData) : Rd J := do
  let a ← getMem 4; let b ← getMem 4; let c ← getMem 4
  pure (getSignature cd (bytesHexL a) (bytesHexL b) (bytesHexL c))

theorem readSigs_eq (cd : List ChipData) : ∀ n, readSigs cd n = rdRepeat (sigStep cd) n
  | 0 => rfl
  | n+1 => by simp only [readSigs, rdRepeat, sigStep, readSigs_eq cd n, bind_assoc, pure_bind]

theorem sigStep_frames (cd : List ChipData) (a b c : Nat) :
    Frames (sigStep cd) (toBE 4 a ++ toBE 4 b ++ toBE 4 c) (getSignature cd (hexFixL 8 a) (hexFixL 8 b) (hexFixL 8 c)) := by
  have g := fun v => Frames.getMemN 4 (toBE 4 v) (toBE_length 4 v) (by omega)
  refine Frames.cast (Frames.bind (g a) <| Frames.bind (g b) <| Frames.bind (g c) <| Frames.pure _) (by simp) ?_
  simp only [bytesHexL_toBE]

theorem readSigs_frames (cd : List ChipData) (sigs : List (Nat × Nat × Nat)) :
    Frames (readSigs cd sigs.length) (sigs.flatMap fun x => toBE 4 x.1 ++ toBE 4 x.2.1 ++ toBE 4 x.2.2)
      (sigs.map fun x => getSignature cd (hexFixL 8 x.1) (hexFixL 8 x.2.1) (hexFixL 8 x.2.2)) := by
  rw [readSigs_eq]
  exact Frames.rdRepeat _ _ sigs fun x _ => sigStep_frames cd x.1 x.2.1 x.2.2

/-- the `line` of `readRegs`, as a function of what the four reads return -/
def regLineOf (cd : List ChipData) (ec : Text) (rid : Bytes) (inst : Nat) (buf : Bytes) : Text :=
  s "  " ++ ljust 25 32 ((regData cd ec (bytesHexL rid) inst).1.take 25) ++ s " (" ++ (regData cd ec (bytesHexL rid) inst).2 ++ s ") " ++
    upperT (joinWith [32] (chunk4 ((bytesHexL buf).length + 1) (bytesHexL buf)))

def regStep (cd : List ChipData) (ec : Text) : Rd Text := do
  let rid ← getMem 3
  let inst ← getInt 1
  let size ← getInt 1
  let buf ← getMem size
  pure (regLineOf cd ec rid inst buf)

theorem readRegs_eq (cd : List ChipData) (ec : Text) : ∀ n, readRegs cd ec n = rdRepeat (regStep cd ec) n
  | 0 => rfl
  | n+1 => by
    simp only [readRegs, rdRepeat, regStep, readRegs_eq cd ec n, bind_assoc, pure_bind, regLineOf]

def chipHead (cd : List ChipData) (ec : Bytes) (chipPos nodePos : Nat) : Text :=
  ljust 60 42 (chipDesc cd (bytesHexL ec) nodePos chipPos ++ [32])

def chipStep (cd : List ChipData) : Rd (List Text) := do
  let ec ← getMem 4
  let chipPos ← getInt 2
  let nodePos ← getInt 1
  let numRegs ← getInt 4
  let regs ← rdRepeat (regStep cd (bytesHexL ec)) numRegs
  pure (chipHead cd ec chipPos nodePos :: regs)

theorem readChips_eq (cd : List ChipData) : ∀ n, readChips cd n = rdRepeat (chipStep cd) n >>= fun xss => pure xss.flatten
  | 0 => rfl
  | n+1 => by
    simp only [readChips, rdRepeat, chipStep, readChips_eq cd n, readRegs_eq, bind_assoc, pure_bind, chipHead,
      List.flatten_cons, List.cons_append]

end Pel
namespace Pel.C20

/- A register dump as a value, the vocabulary of `regdump_roundtrip`: `enc` is the layout `_parse_register_dump` of udparsers/oe500
   reads, `regLine` / `chipLines` are the lines it prints. -/
structure AReg where
  id : Nat          -- 24 bit
  inst : Nat
  data : Bytes      -- 1..255 bytes
deriving Repr
structure AChip where
  ec : Nat
  chipPos : Nat
  nodePos : Nat
  regs : List AReg
deriving Repr

def AReg.WF (r : AReg) : Prop := r.id < 2^24 ∧ r.inst < 256 ∧ 1 ≤ r.data.length ∧ r.data.length < 256 ∧ ∀ x ∈ r.data, x < 256
def AChip.WF (c : AChip) : Prop := c.ec < 2^32 ∧ c.chipPos < 65536 ∧ c.nodePos < 256 ∧ c.regs.length < 2^32 ∧ ∀ r ∈ c.regs, r.WF
def AReg.enc (r : AReg) : Bytes := toBE 3 r.id ++ [r.inst, r.data.length] ++ r.data
def AChip.enc (c : AChip) : Bytes :=
  toBE 4 c.ec ++ toBE 2 c.chipPos ++ [c.nodePos] ++ toBE 4 c.regs.length ++ c.regs.flatMap (·.enc)

def regLine (cd : List ChipData) (ec : Text) (r : AReg) : Text :=
  let nd := regData cd ec (hexFixL 6 r.id) r.inst
  s "  " ++ ljust 25 32 (nd.1.take 25) ++ s " (" ++ nd.2 ++ s ") " ++
    upperT (joinWith [32] (chunk4 ((bytesHexL r.data).length + 1) (bytesHexL r.data)))

def chipLines (cd : List ChipData) (c : AChip) : List Text :=
  ljust 60 42 (chipDesc cd (hexFixL 8 c.ec) c.nodePos c.chipPos ++ [32]) :: c.regs.map (regLine cd (hexFixL 8 c.ec))

end Pel.C20
namespace Pel
open C20

theorem regStep_frames (cd : List ChipData) (ec : Text) (r : AReg) (hw : r.WF) : Frames (regStep cd ec) r.enc (regLine cd ec r) := by
  obtain ⟨_, h1, h2, h3, _⟩ := hw
  refine Frames.cast (Frames.bind (Frames.getMemN 3 (toBE 3 r.id) (toBE_length 3 r.id) (by omega)) <|
    Frames.bind (Frames.getInt1 r.inst h1) <| Frames.bind (Frames.getInt1 r.data.length h3) <|
    Frames.bind (Frames.getMem r.data (by omega)) <| Frames.pure _) (by simp [AReg.enc]) ?_
  simp only [regLineOf, regLine, bytesHexL_toBE, Nat.reduceMul]

theorem chipStep_frames (cd : List ChipData) (c : AChip) (hw : c.WF) : Frames (chipStep cd) c.enc (chipLines cd c) := by
  obtain ⟨_, h1, h2, h3, h4⟩ := hw
  refine Frames.cast (Frames.bind (Frames.getMemN 4 (toBE 4 c.ec) (toBE_length 4 c.ec) (by omega)) <|
    Frames.bind (Frames.getInt 2 c.chipPos (by omega) h1) <| Frames.bind (Frames.getInt1 c.nodePos h2) <|
    Frames.bind (Frames.getInt 4 c.regs.length (by omega) h3) <|
    Frames.bind (Frames.rdRepeat _ _ c.regs fun r hr => regStep_frames cd _ r (h4 r hr)) <| Frames.pure _) (by simp [AChip.enc]) ?_
  simp only [chipHead, chipLines, bytesHexL_toBE, Nat.reduceMul]

theorem readChips_frames (cd : List ChipData) (chips : List AChip) (hw : ∀ c ∈ chips, c.WF) :
    Frames (readChips cd chips.length) (chips.flatMap (·.enc)) (chips.flatMap (chipLines cd)) := by
  rw [readChips_eq]
  exact Frames.cast (Frames.bind (Frames.rdRepeat _ _ chips fun c hc => chipStep_frames cd c (hw c hc)) (Frames.pure _))
    (List.append_nil _) List.flatMap_def.symm

/-! ### the data column -/

/-- the model's groups of four are the chunks of the hex dump's line division, without their offsets -/
theorem chunk4_eq_chunks : ∀ (fuel : Nat) (t : Text) (off : Nat), t.length < fuel → chunk4 fuel t = (chunks 4 off t).map (·.2)
  | 0, t, _, h => by omega
  | fuel+1, t, off, h => by
    unfold chunk4
    by_cases ht : t = []
    · subst ht; rw [if_pos rfl, chunks_nil]; rfl
    · have hl : 0 < t.length := List.length_pos_iff.mpr ht
      rw [if_neg ht, chunks_cons 4 off t (by omega) ht, chunk4_eq_chunks fuel (t.drop 4) (off + 4) (by rw [List.length_drop]; omega)]
      rfl

theorem filter_ne_of_not_mem {t : Text} {sep : Nat} (h : sep ∉ t) : t.filter (· != sep) = t := by
  rw [List.filter_eq_self]
  intro x hx; simpa using fun e : x = sep => h (e ▸ hx)

theorem joinWith_filter_sep (sep : Nat) (cs : List Text) (h : ∀ c ∈ cs, sep ∉ c) :
    (joinWith [sep] cs).filter (· != sep) = cs.flatten := by
  induction cs with
  | nil => rfl
  | cons c r ih =>
    have hc := filter_ne_of_not_mem (h c (by simp))
    have ih := ih fun x hx => h x (by simp [hx])
    cases r with
    | nil => simpa [joinWith] using hc
    | cons d r =>
      show (c ++ [sep] ++ joinWith [sep] (d :: r)).filter _ = _
      rw [List.filter_append, List.filter_append, hc, ih]
      simp

/-! ### callout FFDC: the stored JSON text is NUL-free ASCII -/

/-- printable-or-control ASCII without NUL -/
def Asc (t : Text) : Prop := ∀ c ∈ t, 1 ≤ c ∧ c < 128

theorem Asc_aItems (n : Nat) : ∀ (l : List J) (lvl : Nat), Asc (aItems n l lvl) :=
  fun l lvl => ascii_of_chars (aItems_chars n l lvl)
theorem Asc_aMembers (n : Nat) : ∀ (l : List (Text × J)) (lvl : Nat), Asc (aMembers n l lvl) :=
  fun l lvl => ascii_of_chars (aMembers_chars n l lvl)

theorem callout_decode (n : Nat) (d : J) (pad : Nat) :
    utf8Decode (rstripChar 0 (aText n d 0 ++ List.replicate pad 0)) = some (aText n d 0) := by
  obtain ⟨r, c, e, hc⟩ := aText_last n d 0
  rw [rstripNul_padded _ pad ⟨r, c, e, by omega⟩]
  exact utf8Decode_lt128 _ (aText_lt128 n d 0)

end Pel
