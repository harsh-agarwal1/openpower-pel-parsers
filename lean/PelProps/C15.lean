import PelProofs.Ilog
import PelProofs.HexDumpParse
import PelProofs.Trace
import PelProofs.Loaders
import PelGen.Live
/-
  C15 — Trace buffers decode entry by entry, stopping at the first malformed entry.
-/
namespace Pel.C15

theorem pin_header_size : ∀ v ∈ Live.trace_HDR_SIZE, v = traceHdrSize := by decide
theorem pin_fixed_size : ∀ v ∈ Live.trace_FIXED_SIZE, v = traceFixedSize := by decide
theorem pin_max_data_len : ∀ v ∈ Live.trace_MAX_DATA_LEN, v = maxDataLen := by decide
theorem pin_type_fieldbin : ∀ v ∈ Live.trace_TYPE_FIELDBIN, v = typeFieldBin := by decide
theorem pin_max_args : ∀ v ∈ Live.trace_MAX_ARGS, v = maxArgs := by decide

/-- ★ if no 32-byte header can be read the whole input is hex-dumped, losslessly -/
theorem no_header_fallback (ss : List TraceString) (b : Bytes) (h : b.length < 32) (hb : ∀ x ∈ b, x < 256) :
    parseTrace ss b = some (s "Unable to parse trace data." :: hexdump16 b) ∧
    parseDump fmtDefault (hexdump16 b) = b := by
  refine ⟨?_, ?_⟩
  · unfold parseTrace readTraceHeader
    rw [if_pos (by simp only [traceHdrSize]; omega)]
    rfl
  · exact parseDump_hexdump16 b hb (by omega)

/-- ★ component, version, size and wrap count are read from bytes 4–15, 0, 20–23, 24–27 -/
theorem header_fields (h : TraceHeaderRaw) (hw : h.WF) (rest : Bytes) :
    readTraceHeader (h.enc ++ rest) =
      some { ver := h.ver, comp := h.comp, size := h.size, timesWrap := h.timesWrap, nextFree := h.nextFree } := by
  have hlen := h.enc_length hw
  obtain ⟨_, _, _, _, hc, _, hr, hs, ht, hn⟩ := hw
  have e : h.enc ++ rest = [[h.ver, h.hdrLen, h.timeFlg, h.endianFlg], h.comp, h.reserved, toBE 4 h.size,
      toBE 4 h.timesWrap, toBE 4 h.nextFree].flatten ++ rest := by
    simp [TraceHeaderRaw.enc]
  have hls : [[h.ver, h.hdrLen, h.timeFlg, h.endianFlg], h.comp, h.reserved, toBE 4 h.size,
      toBE 4 h.timesWrap, toBE 4 h.nextFree].map List.length = [4, 12, 4, 4, 4, 4] := by simp [hc, hr]
  unfold readTraceHeader
  rw [if_neg (by simp [traceHdrSize, hlen]), e, slice_flatten _ _ hls rest 1 4 12 rfl rfl rfl,
    slice_flatten _ _ hls rest 3 20 4 rfl rfl rfl, slice_flatten _ _ hls rest 4 24 4 rfl rfl rfl,
    slice_flatten _ _ hls rest 5 28 4 rfl rfl rfl, fromBE_toBE4 _ hs, fromBE_toBE4 _ ht, fromBE_toBE4 _ hn]
  rfl

/-- a well-formed entry is read back exactly, consuming exactly its own bytes -/
theorem entry_read (e : TraceEntry) (he : e.WF) (pad rest : Bytes) :
    readTraceEntry (e.enc pad ++ rest) = some (e, e.size) ∧ (e.enc pad).length = e.size := by
  have hlen := e.enc_length he pad
  refine ⟨?_, hlen⟩
  obtain ⟨h1, h2, h3, h4, h5, hl, hm, _⟩ := he
  have hp := padOf_le e.length
  have hsize : e.size = 16 + e.length + padOf e.length + 4 := rfl
  have hL : (e.enc pad ++ rest).length = e.size + rest.length := by simp [hlen]
  have enc : e.enc pad ++ rest = [toBE 2 e.tbh, toBE 2 e.tbl, toBE 2 e.length, toBE 2 e.tag, toBE 4 e.hash,
      toBE 4 e.line, e.data, pad.take (padOf e.length) ++ List.replicate (padOf e.length - pad.length) 0,
      toBE 4 e.size].flatten ++ rest := by
    simp [TraceEntry.enc]
  have hls : [toBE 2 e.tbh, toBE 2 e.tbl, toBE 2 e.length, toBE 2 e.tag, toBE 4 e.hash,
      toBE 4 e.line, e.data, pad.take (padOf e.length) ++ List.replicate (padOf e.length - pad.length) 0,
      toBE 4 e.size].map List.length = [2, 2, 2, 2, 4, 4, e.length, padOf e.length, 4] := by
    simp [hl]; omega
  have c0 : (e.enc pad ++ rest).take 2 = toBE 2 e.tbh := by rw [enc]; exact slice_flatten _ _ hls rest 0 0 2 rfl rfl rfl
  rw [readTraceEntry_eq, hL, c0, enc]
  simp only [slice_flatten _ _ hls rest 1 2 2 rfl rfl rfl,
    slice_flatten _ _ hls rest 2 4 2 rfl rfl rfl, slice_flatten _ _ hls rest 3 6 2 rfl rfl rfl,
    slice_flatten _ _ hls rest 4 8 4 rfl rfl rfl, slice_flatten _ _ hls rest 5 12 4 rfl rfl rfl,
    slice_flatten _ _ hls rest 6 16 e.length rfl rfl rfl,
    slice_flatten _ _ hls rest 8 (16 + e.length + padOf e.length) 4 rfl (by simp; omega) rfl,
    fromBE_toBE2 _ h1, fromBE_toBE2 _ h2, fromBE_toBE2 _ (by omega : e.length < 2 ^ 16),
    fromBE_toBE2 _ h3, fromBE_toBE4 _ h4, fromBE_toBE4 _ h5, fromBE_toBE4 _ (by omega : e.size < 2 ^ 32)]
  rw [if_pos ⟨by omega, hm, by omega, hsize⟩]
  rfl

/-- ★ an entry is rejected exactly when it is truncated, oversized (> 1024 data bytes), or its trailing size
    word disagrees with its actual size -/
theorem read_none_iff (r : Bytes) :
    readTraceEntry r = none ↔
      (r.length < 16 ∨ fromBE ((r.drop 4).take 2) > 1024 ∨
       r.length < 16 + fromBE ((r.drop 4).take 2) + padOf (fromBE ((r.drop 4).take 2)) + 4 ∨
       fromBE ((r.drop (16 + fromBE ((r.drop 4).take 2) + padOf (fromBE ((r.drop 4).take 2)))).take 4) ≠
         16 + fromBE ((r.drop 4).take 2) + padOf (fromBE ((r.drop 4).take 2)) + 4) := by
  rw [readTraceEntry_eq]
  simp only [ite_eq_right_iff, reduceCtorEq, imp_false]
  omega

/-- ★ the entry loop shows, in order, the entries that start before the declared buffer size, then continues
    on what follows (and stops there if that is not a readable entry) -/
theorem entries_shown (size : Nat) : ∀ (es : List (TraceEntry × Bytes)) (idx : Nat) (rest : Bytes),
    (∀ p ∈ es, p.1.WF) →
    traceLoop size idx (es.flatMap (fun p => p.1.enc p.2) ++ rest) =
      specShown size idx (es.map (·.1)) ++
        (if (specShown size idx (es.map (·.1))).length = es.length
         then traceLoop size (idx + (es.map (·.1.size)).sum) rest else []) := by
  intro es
  induction es with
  | nil => intro idx rest _; simp [specShown]
  | cons p es ih =>
    intro idx rest hw
    have hp : p.1.WF := hw p (List.mem_cons_self)
    have hes : ∀ q ∈ es, q.1.WF := fun q hq => hw q (List.mem_cons_of_mem _ hq)
    simp only [List.flatMap_cons, List.append_assoc, List.map_cons, List.sum_cons, List.length_cons]
    by_cases hi : idx < size
    · rw [traceLoop_eq, if_pos hi, (entry_read p.1 hp p.2 _).1]
      simp only []
      rw [List.drop_left' (p.1.enc_length hp p.2), ih (idx + p.1.size) rest hes]
      simp only [specShown, if_pos hi, List.length_cons, List.cons_append, Nat.add_right_cancel_iff,
        Nat.add_assoc]
    · rw [traceLoop_eq, if_neg hi]
      simp only [specShown, if_neg hi, List.length_nil, List.nil_append]
      rw [if_neg (by omega)]

theorem stops_at_malformed (size idx : Nat) (r : Bytes) (h : readTraceEntry r = none) : traceLoop size idx r = [] := by
  rw [traceLoop_eq, h]; split <;> rfl

theorem stops_at_size (size idx : Nat) (r : Bytes) (h : size ≤ idx) : traceLoop size idx r = [] := by
  rw [traceLoop_eq, if_neg (by omega)]

/-- ★ the trace string for a hash is the first with the same hash, else the LAST whose hash agrees modulo
    100000, else none -/
theorem string_choice (ss : List TraceString) (h : Nat) : getTraceString ss h = specChoice ss h := by
  unfold getTraceString specChoice
  rw [getTraceStringGo_eq]
  cases ss.find? (fun t => t.hash == h) <;> simp

/-- formatting of one entry is the declarative rendering -/
theorem entry_lines (ss : List TraceString) (e : TraceEntry) (he : e.WF) :
    formatTraceEntry ss e = specEntryLines ss e := by
  obtain ⟨h1, h2, _⟩ := he
  unfold formatTraceEntry specEntryLines
  simp only [string_choice, formatTimestamp_eq _ h1, fmtHex4_eq _ h2, traceArgs_eq]
  cases hc : specChoice ss e.hash with
  | none => simp
  | some t =>
    have hr := specChoice_residue ss e.hash t hc
    have hpm : isPartialMatch t e.hash = (t.hash != e.hash) := by
      simp [isPartialMatch, hr]
    simp only [hpm, Option.map_map]
    congr 1
    funext m
    by_cases hh : t.hash = e.hash
    · simp [hh, isBinaryTrace, typeFieldBin]
    · simp [hh, isBinaryTrace, typeFieldBin]

/-- ★ round trip: header + well-formed entries + whatever follows (nothing readable, or beyond the declared
    size) is displayed as header fields and exactly the entries that start before the declared size -/
theorem roundtrip (ss : List TraceString) (h : TraceHeaderRaw) (hw : h.WF) (es : List (TraceEntry × Bytes))
    (hes : ∀ p ∈ es, p.1.WF) (trailing : Bytes)
    (ht : readTraceEntry trailing = none ∨ h.size ≤ 32 + (es.map (·.1.size)).sum) :
    parseTrace ss (h.enc ++ es.flatMap (fun p => p.1.enc p.2) ++ trailing) = specTrace ss h (es.map (·.1)) := by
  unfold parseTrace specTrace
  rw [List.append_assoc, header_fields h hw]
  simp only [traceHdrSize]
  rw [List.drop_left' (h.enc_length hw), entries_shown h.size es 32 trailing hes]
  rw [ht.elim (stops_at_malformed _ _ _) (stops_at_size _ _ _)]
  simp only [ite_self, List.append_nil]
  rw [List.map_congr_left fun e he => by
    obtain ⟨p, hp, rfl⟩ := List.mem_map.mp ((specShown_prefix h.size _ 32).subset he)
    exact entry_lines ss p.1 (hes p hp)]

/-- the data shown for an entry parses back to the entry's data bytes -/
theorem entry_dump_lossless (e : TraceEntry) (he : e.WF) :
    parseDump fmtDefault (hexdump16 e.data) = e.data := by
  obtain ⟨_, _, _, _, _, hl, hm, hb⟩ := he
  exact parseDump_hexdump16 e.data hb (by omega)

/-! ### the string-file LOADER (`TraceStringFile.__init__` / `_add_trace_string`, modelled in PelModel/Regex.lean + Loaders.lean) -/

/-- ★ Printing trace strings as a string file (`hash||format||location` + newline, hash in decimal) and loading the file with
    the model of the repo's loader gives what the constructor stores: the hash, and format and location with blanks stripped.

    Well-formedness `traceStringWf` (decidable): format and location without newline; the hash has at most 4300 digits; and
    `|` + location contains no `||` (i.e. the location has no `||` and does not begin with `|`).  The last condition is exact for
    the split: `(.*)\|\|(.*)` is greedy, so the line is cut at its LAST `||` (see `split_at_last_bars`); the format itself may
    contain `||`, may end with `|`, and may be empty. -/
theorem string_file_roundtrip (ss : List TraceString) (hwf : ∀ t ∈ ss, traceStringWf t = true) :
    loadTraceStrings (renderStringFile ss) = some (ss.map normaliseTraceString) := by
  have := loadTraceStrings_rendered ss hwf []
  rw [List.append_nil] at this
  unfold renderStringFile
  rw [this]
  simp [loadTraceStrings]

def demoStrings : List TraceString :=
  [{ hash := 92602121, fmt := s "I> ADT7470: trace_level = %u", location := s "adt7470_fan_ctl.cpp(926)" },
   { hash := 0, fmt := s " a || b \\\"q\" | ", location := s " x|y " },
   { hash := 7, fmt := [], location := [] }]

example : (∀ t ∈ demoStrings, traceStringWf t = true) ∧
    renderStringFile demoStrings =
      [s "92602121||I> ADT7470: trace_level = %u||adt7470_fan_ctl.cpp(926)\n", s "0|| a || b \\\"q\" | || x|y \n", s "7||||\n"] ∧
    loadTraceStrings (renderStringFile demoStrings) = some
      [{ hash := 92602121, fmt := s "I> ADT7470: trace_level = %u", location := s "adt7470_fan_ctl.cpp(926)" },
       { hash := 0, fmt := s "a || b \\\"q\" |", location := s "x|y" },
       { hash := 7, fmt := [], location := [] }] := by decide +kernel

/-- the greedy `(.*)` cuts at the LAST `||`: a location containing `||`, or beginning with `|`, is not read back -/
theorem split_at_last_bars :
    loadTraceStrings [s "1||a||b||c\n"] = some [{ hash := 1, fmt := s "a||b", location := s "c" }] ∧
    loadTraceStrings [s "2||a|||b\n"] = some [{ hash := 2, fmt := s "a|", location := s "b" }] ∧
    traceStringWf { hash := 1, fmt := s "a", location := s "b||c" } = false ∧
    traceStringWf { hash := 2, fmt := s "a", location := s "|b" } = false := by decide +kernel

/-- ★ the groups of a string-file line in any layout: blanks around the hash, an optional final newline -/
theorem string_line_groups (w0 w1 : Text) (h0 : AllSp w0) (h1 : AllSp w1) (d : Nat) (ds fmt loc nl : Text)
    (hd : 48 ≤ d ∧ d ≤ 57) (hds : ∀ x ∈ ds, 48 ≤ x ∧ x ≤ 57) (hfmt : ∀ x ∈ fmt, x ≠ 10) (hloc : ∀ x ∈ loc, x ≠ 10)
    (hbar : noBarBar (124 :: loc) = true) (hnl : nl = [10] ∨ nl = []) :
    traceLineRe.fullmatch (w0 ++ (d :: (ds ++ (w1 ++ (124 :: 124 :: (fmt ++ (124 :: 124 :: (loc ++ nl))))))))
      = some [(3, loc), (2, fmt), (1, d :: ds)] :=
  traceLine_fullmatch h0 h1 hd hds hfmt hloc hbar hnl

/-- blanks around the hash (a form feed and a no-break space among them), no final newline -/
example : AllSp [32, 12] ∧ AllSp [160] ∧ noBarBar (124 :: s "b|c") = true ∧
    traceLineRe.fullmatch ([32, 12] ++ (49 :: (s "7" ++ ([160] ++ (124 :: 124 :: (s "a||" ++ (124 :: 124 :: (s "b|c" ++ []))))))))
      = some [(3, s "b|c"), (2, s "a||"), (1, s "17")] :=
  ⟨allSp_of_all rfl, allSp_of_all rfl, by decide, by decide +kernel⟩

/-- ★ a line that does not match `LINE_RE` (the `#FSP_TRACE_v2|||…` heading of the shipped files, a blank hash, a line with a
    single `||`) contributes nothing and does not disturb its neighbours -/
theorem non_matching_lines_skipped (a b : List Text) (bad : Text) (h : traceLineRe.fullmatch bad = none) :
    loadTraceStrings (a ++ bad :: b) = loadTraceStrings (a ++ b) := by
  simp only [loadTraceStrings_eq]
  exact loadGo_skip_line _ _ _ bad rfl rfl (by simp [traceStep, h]) a b true

example : ∀ bad ∈ [s "#FSP_TRACE_v2|||Thu Sep 24 12:55:43 2020|||BUILD:Release\n", s "||a||b\n", s "16||a\n", s "+9||a||b\n", s "\n"],
    traceLineRe.fullmatch bad = none := by decide +kernel

/-- ★ end to end, string file → chosen trace string: look-ups in the loaded file are look-ups in the normalised list -/
theorem string_file_to_choice (ss : List TraceString) (hwf : ∀ t ∈ ss, traceStringWf t = true) (h : Nat) :
    (loadTraceStrings (renderStringFile ss)).map (fun l => getTraceString l h) =
      some (specChoice (ss.map normaliseTraceString) h) := by
  rw [string_file_roundtrip ss hwf]
  simp only [Option.map_some]
  rw [string_choice]

/-- hash 192602121 is not in the demo file; the string with the same low five digits is chosen -/
example : (loadTraceStrings (renderStringFile demoStrings)).map (fun l => (getTraceString l 192602121).map (·.hash)) = some (some 92602121) := by
  rw [string_file_roundtrip demoStrings (by decide +kernel)]
  decide +kernel

end Pel.C15
