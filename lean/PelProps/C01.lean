import PelProofs.FramesPel
import PelGen.Live
import PelProps.Golden
/-
  C01 — Every PEL section is decoded once, in order, from exactly its own bytes.
-/
namespace Pel.C01

/-! Pins: section ids and the published section names -/
theorem pin_ids :
    (∀ v ∈ Live.sid_privateHeader, v = sidPH) ∧ (∀ v ∈ Live.sid_userHeader, v = sidUH) ∧
    (∀ v ∈ Live.sid_primarySRC, v = sidPS) ∧ (∀ v ∈ Live.sid_secondarySRC, v = sidSS) ∧
    (∀ v ∈ Live.sid_extendedUserHeader, v = sidEH) ∧ (∀ v ∈ Live.sid_failingMTMS, v = sidMT) ∧
    (∀ v ∈ Live.sid_impactedPart, v = sidLP) ∧ (∀ v ∈ Live.sid_userData, v = sidUD) ∧
    (∀ v ∈ Live.sid_extUserData, v = sidED) := by decide
/-- every published two-character type still maps to the same display name in the live table -/
theorem pin_section_names : ∀ p ∈ Golden.sectionNames, ∀ live ∈ Live.sectionNames, lookupT live p.1 = some p.2 := by decide +kernel

/-- ★ each entry is decoded from exactly the bytes its section header delimits: whatever follows the section
    (`rest` – a section of any type, or anything else) is left untouched -/
theorem frame_section (env : Env) (creator : Text) (sec : ASection) (hs : sec.WF) (j : J)
    (hr : renderSection env creator sec = .ok j) (rest : Bytes) :
    decodeOne env creator (sec.enc ++ rest) = .ok ((sectionName env.T sec.body.id, j), rest) :=
  (frames_section env creator sec hs j hr).exact rest

/-- the display names of a PEL's optional sections, in log order -/
def names (env : Env) (p : APel) : List Text := p.sections.map (fun sec => sectionName env.T sec.body.id)

/-- ★ a well-formed, selected PEL decodes to exactly the prescribed document, whatever trails the PEL -/
theorem decode_encode (env : Env) (cfg : SelCfg) (p : APel) (hp : p.WF)
    (hsel : considerPEL p.uh.sev p.uh.af cfg = true) (d : J) (hr : render env p = .ok d)
    (hnames : (sectionName env.T sidPH :: sectionName env.T sidUH :: numberNames (names env p) (names env p)).Nodup)
    (trailing : Bytes) :
    parsePEL env cfg (p.enc ++ trailing) = .doc (fmtHex 2 p.ph.eid) d := by
  have h := (frames_pel env cfg p hp hsel d hr hnames).exact trailing
  simp only [parsePEL, h]

/-- ★ exactly one top-level entry per section, in log order, under the numbered display names -/
theorem entries (env : Env) (p : APel) (d : J) (hr : render env p = .ok d) :
    ∃ l, d = .obj l ∧ l.length = p.sections.length + 2 ∧
      l.map (·.1) = sectionName env.T sidPH :: sectionName env.T sidUH :: numberNames (names env p) (names env p) := by
  obtain ⟨js, -, hjl, rfl⟩ := render_ok env p d hr
  have hnl : (numberNames (names env p) (names env p)).length ≤ js.length := by
    rw [numberNames_length, hjl, names, List.length_map]; exact Nat.le_refl _
  refine ⟨_, rfl, ?_, congrArg (fun l => sectionName env.T sidPH :: sectionName env.T sidUH :: l) (List.map_fst_zip hnl)⟩
  show (List.zip (numberNames (names env p) (names env p)) js).length + 2 = _
  rw [List.length_zip, Nat.min_eq_left hnl, numberNames_length, names, List.length_map]

/-- ★ the numbering rule: a name that occurs once stays bare; a name that occurs more than once gets " k" where k
    counts its earlier occurrences (0,1,2… in order of appearance) -/
theorem numbering_rule (all : List Text) :
    (numberNames all all).length = all.length ∧
    ∀ i (h : i < all.length), (numberNames all all)[i]? =
      some (if (all.filter (· == all[i])).length = 1 then all[i]
            else all[i] ++ [32] ++ natDec ((all.take i).filter (· == all[i])).length) := by
  refine ⟨numberNames_length all all, ?_⟩
  intro i h
  have := numberNames_getElem? all [] i h
  simpa using this

/-- entries are named after the two-character type; unrecognised types are called Unknown -/
theorem name_of_id (T : Tables) (id : Nat) :
    sectionName T id = (lookupT T.sectionNames [(id / 256) % 256, id % 256]).getD (s "Unknown") := rfl

/-- a PEL that the options do not select yields no document (and is not an error) -/
theorem not_selected (env : Env) (cfg : SelCfg) (p : APel) (hp : p.WF)
    (hsel : considerPEL p.uh.sev p.uh.af cfg = false) (trailing : Bytes) :
    parsePEL env cfg (p.enc ++ trailing) = .filtered := by
  rw [parsePEL, show parsePELRd env cfg = withHeads env.T (pure .badHeader) _ from rfl, withHeads_enc _ _ _ p hp]
  simp only [hsel]
  rfl

/-! Non-vacuity: a well-formed PEL with sections PS, UD, UD, ZZ (unknown), MT whose names are numbered. -/
def demoHdr : AHdr := { ver := 1, sub := 0, comp := 0x2000 }
def demoSrc : ASrc :=
  { version := 2, flagsHi := 0, resv1 := 0, wordCount := 9, resv2 := 0, size := 72,
    words := [0x55, 0, 0, 0, 0, 0, 0, 0], ascii := s "BD8D1234                        ", callouts := none }
def demoPH : APH :=
  { hdr := demoHdr, create := [0x20,0x24,3,8,0x18,0x40,0x27,0], commit := [0x20,0x24,3,8,0x18,0x40,0x27,0], creator := 79,
    resv0 := 0, resv1 := 0, obmc := 1, cver := 0, plid := 0x50000001, eid := 0x50000001 }
def demoUH : AUH :=
  { hdr := demoHdr, subsys := 0x8D, scope := 3, sev := 0x40, etype := 0, resv := 0, pd := 0, pv := 0, af := 0xA000, states := 0 }
def demoPel : APel :=
  { ph := demoPH, uh := demoUH,
    sections := [
      { hdr := demoHdr, body := .src true demoSrc },
      { hdr := { ver := 1, sub := 3, comp := 0x2000 }, body := .ud (s "hello") },
      { hdr := { ver := 1, sub := 3, comp := 0x2000 }, body := .ud (s "world") },
      { hdr := demoHdr, body := .other 0x5A5A [1, 2, 3] },
      { hdr := demoHdr, body := .mt { mtm := s "9105-22A", sn := s "SN1234567890" } }] }

example : numberNames [s "Primary SRC", s "User Data", s "User Data", s "Unknown", s "Failing MTMS"]
                      [s "Primary SRC", s "User Data", s "User Data", s "Unknown", s "Failing MTMS"] =
    [s "Primary SRC", s "User Data 0", s "User Data 1", s "Unknown", s "Failing MTMS"] := by decide +kernel

theorem demo_wf : demoPel.WF := by
  simp only [APel.WF, APH.WF, AUH.WF, AHdr.WF, demoPel, demoPH, demoUH, demoHdr, demoSrc, ASection.WF, ABody.WF, ASrc.WF, AMT.WF,
    isAscii, List.forall_mem_cons, List.not_mem_nil, Option.mem_def, reduceCtorEq, false_implies, implies_true]
  -- every text literal as the list of its characters' codes (cheaper than evaluating `String.toList`), then evaluation;
  -- conjunct by conjunct, since the `Decidable` instance of the whole is too large to be found
  repeat rw [s_ofList]
  refine ⟨?_, ?_, ?_, ?_⟩ <;> decide

end Pel.C01
