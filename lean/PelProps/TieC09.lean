import PelProps.TieC08
import PelProps.C09
/-
  Source tie for C09 (stream `dirmodes`): the ★ theorems of C09 about `--list`, `--all-pels` and `--show-pel-count` read with the
  functions REGENERATED from the source text of `listOption`, `extractAllPELsData` and `printPELCount` (PelGen/GenDirModes.lean),
  which PelProps/TieC08.lean proves equal to the model's modes.  (The look-up modes `--plid` / `--src` are tied in PelProps/TieC10.lean;
  their non-interference statements are not repeated here.)
-/
namespace Pel.Tie
open Pel.C09

/-- C09 ★`list_noninterference` for the translated `listOption`: a file that is not a selected decodable PEL changes neither what is
    printed nor the exit status; diagnostics only grow -/
theorem list_noninterference (g : Env → DirCfg → Dir → CliOut) (h : Gen.listOption? = some g)
    (env : Env) (c : DirCfg) (d1 d2 : Dir) (j : FileEntry)
    (hd : distinctNames (withJunk d1 j d2)) (hj : junkForSummary env c.opts.cfg j) :
    (g env c (withJunk d1 j d2)).stdout = (g env c (d1 ++ d2)).stdout ∧
    (g env c (withJunk d1 j d2)).exit = 0 ∧
    (g env c (d1 ++ d2)).stderrLines ≤ (g env c (withJunk d1 j d2)).stderrLines := by
  rw [listOption g h]; exact C09.list_noninterference env c.opts d1 d2 j hd hj

/-- C09 ★`all_noninterference` for the translated `extractAllPELsData` -/
theorem all_noninterference (g : Env → DirCfg → Dir → CliOut) (h : Gen.extractAllPELsData? = some g)
    (env : Env) (c : DirCfg) (d1 d2 : Dir) (j : FileEntry)
    (hd : distinctNames (withJunk d1 j d2)) (hj : junkForFull env c.opts.cfg j) :
    (g env c (withJunk d1 j d2)).stdout = (g env c (d1 ++ d2)).stdout ∧
    (g env c (withJunk d1 j d2)).exit = 0 := by
  rw [extractAllPELsData g h]; exact C09.all_noninterference env c.opts d1 d2 j hd hj

/-- C09 ★`count_noninterference` for the translated `printPELCount` -/
theorem count_noninterference (g : Env → DirCfg → Dir → CliOut) (h : Gen.printPELCount? = some g)
    (env : Env) (c : DirCfg) (d1 d2 : Dir) (j : FileEntry)
    (hd : distinctNames (withJunk d1 j d2)) (hj : junkForCount env c.opts.cfg j) :
    (g env c (withJunk d1 j d2)).stdout = (g env c (d1 ++ d2)).stdout ∧
    (g env c (withJunk d1 j d2)).exit = 0 := by
  rw [printPELCount g h]; exact C09.count_noninterference env c.opts d1 d2 j hd hj

/-- C09 ★`stdout_is_one_document` for the three translated modes: whatever the directory holds, stdout is one JSON document (one
    object, one framed list, one count) and the exit status is 0 -/
theorem stdout_is_one_document (gl ga gc : Env → DirCfg → Dir → CliOut)
    (hl : Gen.listOption? = some gl) (ha : Gen.extractAllPELsData? = some ga) (hc : Gen.printPELCount? = some gc)
    (env : Env) (c : DirCfg) (d : Dir) (hnohex : c.hex = false) :
    (∃ doc, (gl env c d).stdout = prettyPrint 29 (dumps doc) ++ nl) ∧
    (∃ docs : List J, (ga env c d).stdout = listFraming (docs.map fun x => prettyPrint 34 (dumps x))) ∧
    (∃ n, (gc env c d).stdout = s "{\n    \"Number of PELs found\": " ++ natDec n ++ s "\n}\n") ∧
    (gl env c d).exit = 0 ∧ (ga env c d).exit = 0 ∧ (gc env c d).exit = 0 := by
  rw [listOption gl hl, extractAllPELsData ga ha, printPELCount gc hc]
  exact C09.stdout_is_one_document env c.opts d hnohex

end Pel.Tie
