import PelProofs.HexDumpParse
import PelGen.Live
/-
  C13 — Hex dumps are lossless: parsing a dump returns the original bytes.
-/
namespace Pel.C13

/-! Pins: the three line templates of the live code are the ones these theorems are about. -/
theorem pin_default_format : ∀ f ∈ Live.hexDefaultFormat, f = fmtDefault := by rw [fmtDefault_lit]; decide
theorem pin_bmc_format : ∀ f ∈ Live.hexBmcFormat, f = fmtBmc := by rw [fmtBmc_lit]; decide
theorem pin_pre_format : ∀ f ∈ Live.hexPreFormat, f = fmtPre := by rw [fmtPre_lit]; decide
/-- the model's pairing of nibbles coincides with the code's `line[i-1:i+1]` on these templates -/
theorem templates_paired : pairedD fmtDefault = true ∧ pairedD fmtBmc = true ∧ pairedD fmtPre = true := by
  rw [fmtDefault_lit, fmtBmc_lit, fmtPre_lit]; decide

/-- one line per started line of data, for every bytes-per-line setting `l ≥ 1` -/
theorem line_count (l c : Nat) (b : Bytes) (hl : 1 ≤ l) :
    (hexdump l c b).length = ceilDiv b.length l :=
  hexdump_length l c b hl

/-- all lines are equally wide (offsets below 2^32 have eight digits) -/
theorem equal_width (l c : Nat) (b : Bytes) (hl : 1 ≤ l) (hc : 1 ≤ c) (hb : b.length ≤ 2 ^ 32) :
    ∀ line ∈ hexdump l c b, line.length = 8 + 5 + charPerLine l c + 5 + l := by
  intro line hline
  rw [hexdump, hexdumpFrom_eq l c 0 b hl, List.mem_map] at hline
  obtain ⟨p, hp, rfl⟩ := hline
  obtain ⟨hne, hk, ho, _⟩ := mem_chunks hl hp
  have hpos : 0 < p.2.length := List.length_pos_iff.mpr hne
  exact dumpLine_length l c p.1 p.2 hl hc hk (by omega)

/-- line `i` begins with its offset `i·l` in eight hex digits -/
theorem offset (l c : Nat) (b : Bytes) (hl : 1 ≤ l) (i : Nat) (hi : i < (hexdump l c b).length)
    (hoff : i * l < 2 ^ 32) : ((hexdump l c b)[i]).take 8 = hexFix 8 (i * l) := by
  rw [hexdump_getElem l c b hl i hi, dumpLine, fmtHex8_eq (i * l) hoff]
  simp

/-- parsing a default-format dump returns exactly the original bytes -/
theorem parse_hexdump (b : Bytes) (hb : ∀ x ∈ b, x < 256) (hlen : b.length ≤ 2 ^ 32) :
    parseDump fmtDefault (hexdump 16 4 b) = b :=
  parseDump_hexdump16 b hb hlen

/-- Any text whose non-noise lines (after stripping trailing newlines) are the BMC-format rendering of `b`,
    with a padded or a truncated short last line, parses back to `b`: comment and blank lines are ignored. -/
theorem parse_bmc (pad : Bool) (b : Bytes) (hb : ∀ x ∈ b, x < 256) (text : List Text)
    (h : (text.map rstripNL).filter (fun t => !isNoise t) = renderBmc pad b) :
    parseDump fmtBmc text = b := by
  rw [parseDump_real_lines fmtBmc fmtBmc_head, h]
  exact parseDump_renderBmc pad b hb

theorem parse_prebmc (pad : Bool) (b : Bytes) (hb : ∀ x ∈ b, x < 256) (text : List Text)
    (h : (text.map rstripNL).filter (fun t => !isNoise t) = renderPre pad b) :
    parseDump fmtPre text = b := by
  rw [parseDump_real_lines fmtPre fmtPre_head, h]
  exact parseDump_renderPre pad b hb

/-- the `--hex` display is begin marker, the dump, end marker; the middle parses back to the file's bytes -/
theorem hex_display (b : Bytes) (hb : ∀ x ∈ b, x < 256) (hlen : b.length ≤ 2 ^ 32) :
    ∃ mid, pelHexDisplay b = [s "-------------- PEL Begin  ----------------"] ++ mid ++
        [s "-------------- PEL End    ----------------"] ∧ parseDump fmtDefault mid = b :=
  ⟨hexdump16 b, rfl, parse_hexdump b hb hlen⟩

/-- corollary in the shape of a real dump file: comment/blank lines before and after the data lines -/
theorem parse_bmc_surrounded (pad : Bool) (b : Bytes) (hb : ∀ x ∈ b, x < 256) (before after : List Text)
    (h1 : ∀ t ∈ before, isNoise (rstripNL t) = true) (h2 : ∀ t ∈ after, isNoise (rstripNL t) = true) :
    parseDump fmtBmc (before ++ renderBmc pad b ++ after) = b := by
  apply parse_bmc pad b hb
  simp only [List.map_append, List.filter_append]
  have h3 := filter_real_lines (renderBmc pad b) (renderBmc_real pad b)
  rw [filter_noise_lines before h1, filter_noise_lines after h2, h3]
  simp

/-! Non-vacuity: the hypotheses are met by concrete inputs with the boundary bytes 0x1F/0x20/0x7E/0x7F, a
    short last line and noise lines (instances of the theorems: `hexdump` is defined by well-founded
    recursion, which the kernel does not unfold, so these go through the theorems, not through evaluation). -/
example : parseDump fmtDefault (hexdump 16 4 [0x1f, 0x20, 0x7e, 0x7f, 0, 255, 1, 2, 3, 4, 5, 6, 7, 8, 9, 10, 11]) =
    [0x1f, 0x20, 0x7e, 0x7f, 0, 255, 1, 2, 3, 4, 5, 6, 7, 8, 9, 10, 11] :=
  parse_hexdump _ (by decide) (by decide)
example : (hexdump 3 2 [1, 2, 3, 4, 5, 6, 7]).length = 3 := line_count 3 2 _ (by decide)
example : parseDump fmtBmc ([s "# comment", []] ++ renderBmc true [0xde, 0xad, 0xbe, 0xef, 1] ++ [[10]]) =
    [0xde, 0xad, 0xbe, 0xef, 1] :=
  parse_bmc_surrounded true _ (by decide) _ _ (by decide) (by decide)
example : parseDump fmtPre (renderPre false [0xde, 0xad, 0xbe]) = [0xde, 0xad, 0xbe] :=
  parseDump_renderPre false _ (by decide)

end Pel.C13
