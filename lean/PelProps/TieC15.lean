import PelGen.GenIoDrawer
import PelProofs.Trace
import PelProofs.TieIoDrawer
import PelProps.C15
/-
  C15, source tie: the functions of modules/io_drawer/trace.py that harness/trans_iodrawer.py regenerates from the CURRENT
  source text (lean/PelGen/GenIoDrawer.lean) are equal to the hand-written model functions the C15 theorems are about.
  The two readers are stated against the model's functions over the REMAINING bytes (`st.rest`): `return False` = `none`,
  `return True` = the members + the stream advanced by what the model says was consumed; no stream operation raises.
-/
set_option linter.unusedSimpArgs false
namespace Pel.Tie

theorem io_ts_is_match (g) (h : Pel.Gen.io_ts_is_match? = some g) : g = fun t hv => t.hash == hv := by
  cases h <;> (first | rfl | (funext t hv; simp [Bool.eq_iff_iff, eq_comm]))
theorem io_ts_is_partial_match (g) (h : Pel.Gen.io_ts_is_partial_match? = some g) : g = isPartialMatch := by
  cases h <;> (first | rfl | (funext t hv; simp only [isPartialMatch, Bool.and_comm]) | (funext t hv; simp [isPartialMatch, Bool.eq_iff_iff]; omega))
theorem io_ts_get_message (g) (h : Pel.Gen.io_ts_get_message? = some g) : g = fun t args => pyFmtOrRaw t.fmt args := by
  cases h <;> (funext t args; simp)
theorem io_te_is_binary_trace (g) (h : Pel.Gen.io_te_is_binary_trace? = some g) : g = isBinaryTrace := by
  cases h <;> (first | rfl | (funext e; simp [isBinaryTrace, typeFieldBin, Bool.eq_iff_iff, eq_comm]))

theorem getTraceString_forEach (ss : List TraceString) (hv : Nat) (acc : Option TraceString)
    (f : TraceString → Option TraceString → IoSem.Step (Option TraceString) (Option TraceString))
    (hf : ∀ t a, f t a = if t.hash == hv then .ret (some t) else if isPartialMatch t hv then .next (some t) else .next a) :
    IoSem.LoopOut.elim (fun r => r) (fun a => a) (IoSem.forEach ss acc f) = getTraceStringGo ss hv acc := by
  induction ss generalizing acc with
  | nil => rfl
  | cons t ts ih =>
    by_cases h1 : (t.hash == hv) = true
    · simp [IoSem.forEach, getTraceStringGo, hf, h1]
    · by_cases h2 : isPartialMatch t hv = true
      · simp [IoSem.forEach, getTraceStringGo, hf, h1, h2]; exact ih _
      · simp [IoSem.forEach, getTraceStringGo, hf, h1, h2]; exact ih _

theorem io_get_trace_string (g) (h : Pel.Gen.io_get_trace_string? = some g) : g = getTraceString := by
  cases h <;> (
  funext ss hv
  exact getTraceString_forEach ss hv none _ (fun t a => by first | rfl | (simp only []; repeat' split; all_goals simp_all))
  )

theorem wordsOf_repeatN (n : Nat) (acc : List Nat) (st : IoSem.Stream)
    (f : List Nat × IoSem.Stream → IoSem.Step (List Nat × IoSem.Stream) (IoSem.Res (List Nat)))
    (hf : ∀ a s, f (a, s) = if s.index + 4 ≤ s.data.length then .next (a ++ [fromBE (s.rest.take 4)], s.advance 4) else .brk (a, s)) :
    IoSem.LoopOut.elim (fun r => r) (fun s => .ok s.1) (IoSem.repeatN n (acc, st) f) = .ok (acc ++ wordsOf n st.rest) := by
  induction n generalizing acc st with
  | zero => simp [IoSem.repeatN, wordsOf]
  | succ k ih =>
    simp only [IoSem.repeatN, hf, wordsOf, IoSem.index_add_le st 4 (by decide)]
    by_cases h : 4 ≤ st.rest.length
    · simp only [h, if_true]
      rw [ih, IoSem.advance_rest]
      simp
    · simp [h]

theorem io_te_get_args (g) (h : Pel.Gen.io_te_get_args? = some g) : g = fun e => .ok (traceArgs e) := by
  cases h <;> (
  funext e
  unfold traceArgs
  cases hb : isBinaryTrace e
  · simp only [Bool.not_false, Bool.and_true, if_true, Bool.false_eq_true, if_false]
    rw [wordsOf_repeatN]
    · simp [IoSem.Stream.new, IoSem.Stream.rest]; rfl
    · intro a s
      simp only [IoSem.checkRange_rest s, IoSem.bindStep_ok, Int.reduceLT, Int.reduceToNat, IoSem.index_add_le s 4 (by decide)]
      by_cases hr : 4 ≤ s.rest.length
      · simp only [hr, decide_true, Bool.not_true, Bool.false_eq_true, if_true, if_false, IoSem.getInt_rest s hr, IoSem.bindStep_ok,
          Int.reduceLT, Int.reduceToNat, Nat.le_refl]
      · simp only [hr, decide_false, Bool.not_false, Bool.false_eq_true, if_true, if_false]
  · simp
  )

theorem io_tbh_read (g) (h : Pel.Gen.io_tbh_read? = some g) : ∀ st : IoSem.Stream, g st =
    match readTraceHeader st.rest with
    | none => .no
    | some hd => .ok ({ ver := hd.ver, hdrLen := st.rest.getD 1 0, timeFlg := st.rest.getD 2 0, endianFlg := st.rest.getD 3 0,
                        comp := compName hd.comp, size := hd.size, timesWrap := hd.timesWrap, nextFree := hd.nextFree }, st.advance 32) := by
  cases h <;> (
  intro st
  unfold readTraceHeader
  simp only [traceHdrSize, IoSem.checkRange_rest st, IoSem.bind_ok, Int.reduceLT, Int.reduceToNat]
  rcases Nat.lt_or_ge st.rest.length 32 with hc | (hr : 32 ≤ st.rest.length)
  · simp only [hc, Nat.not_le_of_lt hc, decide_false, Bool.not_false, if_true]
  · simp only [Nat.not_lt_of_le hr, hr, decide_true, Bool.not_true, Bool.false_eq_true, if_false,
      IoSem.getInt_rest st hr, IoSem.getMem_rest st hr, IoSem.incIndex_rest st hr,
      IoSem.getInt_adv st hr, IoSem.getMem_adv st hr, IoSem.incIndex_adv st hr, IoSem.bind_ok,
      Int.reduceLT, Int.reduceToNat, Nat.reduceAdd, Nat.reduceLeDiff]
    simp (disch := omega) only [compName, IoSem.asciiIgnore, IoSem.fromBE_take1, IoSem.fromBE_take1_zero]
  )

theorem io_te_read (g) (h : Pel.Gen.io_te_read? = some g) : ∀ st : IoSem.Stream, g st =
    match readTraceEntry st.rest with
    | none => .no
    | some (e, n) => .ok (e, st.advance n) := by
  cases h <;> (
  intro st
  unfold readTraceEntry
  -- The model's tests `st.rest.length < K` are taken in the model's order.  Where one fails, the matching `check_range` of the source
  -- answers `False`; where it passes, `K ≤ st.rest.length` is the window in which the next reads are slices of `st.rest`
  -- (`getInt_adv st hK` …).  The source has the tail (size word, size test) three times: length 0, no padding, padding.
  simp only [traceFixedSize, maxDataLen, IoSem.checkRange_rest st, IoSem.bind_ok, Int.reduceLT, Int.reduceToNat]
  rcases Nat.lt_or_ge st.rest.length 16 with hc | (hr : 16 ≤ st.rest.length)
  · simp only [hc, Nat.not_le_of_lt hc, decide_false, Bool.not_false, if_true]
  · simp only [Nat.not_lt_of_le hr, hr, decide_true, Bool.not_true, Bool.false_eq_true, if_false,
      IoSem.getInt_rest st hr, IoSem.getInt_adv st hr, IoSem.bind_ok, IoSem.checkRange_adv st,
      Int.reduceLT, Int.reduceToNat, Nat.reduceAdd, Nat.reduceLeDiff]
    generalize fromBE (List.take 2 (List.drop 4 st.rest)) = L
    by_cases h2 : L > 1024
    · simp only [h2, decide_true, if_true]
    · simp only [h2, decide_false, Bool.false_eq_true, if_false]
      by_cases h3 : L = 0
      · subst h3
        simp only [beq_self_eq_true, bne_self_eq_false, Bool.not_false, if_true, padOf, Nat.zero_mod, Nat.add_zero, List.take_zero,
          Nat.reduceAdd]
        rcases Nat.lt_or_ge st.rest.length 20 with h4 | (h4' : 20 ≤ st.rest.length)
        · simp only [h4, Nat.not_le_of_lt h4, Nat.not_lt_of_le hr, decide_false, Bool.not_false, if_true, if_false]
        · simp only [Nat.not_lt_of_le h4', h4', Nat.not_lt_of_le hr, decide_true, Bool.not_true, Bool.false_eq_true, if_false,
            IoSem.getInt_adv st h4', IoSem.bind_ok, Int.reduceLT, Int.reduceToNat, Nat.reduceAdd, Nat.reduceLeDiff, IoSem.advance_index, IoSem.int_ne_sub, IoSem.int_eq_sub]
          generalize fromBE (List.take 4 _) = v
          by_cases hv : v = 20 <;> simp [hv]
      · have h3' : (0 : Int) < (L : Int) := by omega
        have h3b : (L == 0) = false := beq_false_of_ne h3
        have h3n : (L != 0) = true := bne_iff_ne.mpr h3
        simp only [h3b, h3n, Bool.not_true, Bool.false_eq_true, if_false, IoSem.checkRange_adv st _ _ h3', IoSem.bind_ok, Int.toNat_natCast]
        rcases Nat.lt_or_ge st.rest.length (16 + L) with h5 | (h5' : 16 + L ≤ st.rest.length)
        · simp only [h5, Nat.not_le_of_lt h5, decide_false, Bool.not_false, if_true]
        · simp only [Nat.not_lt_of_le h5', h5', decide_true, Bool.not_true, Bool.false_eq_true, if_false, IoSem.getMem_adv st h5' _ _ h3', Int.toNat_natCast,
            Nat.le_refl, IoSem.bind_ok]
          by_cases h6 : L % 4 = 0
          · have hp : padOf L = 0 := if_pos h6
            have h6n : (L % 4 != 0) = false := by rw [h6]; rfl
            have h6b : (L % 4 == 0) = true := by rw [h6]; rfl
            simp only [hp, h6n, h6b, Bool.not_true, Nat.add_zero, Bool.false_eq_true, if_false, IoSem.checkRange_adv st, IoSem.bind_ok,
              Int.reduceLT, Int.reduceToNat]
            rcases Nat.lt_or_ge st.rest.length (16 + L + 4) with h7 | (h7' : 16 + L + 4 ≤ st.rest.length)
            · simp only [Nat.not_lt_of_le h5', h7, Nat.not_le_of_lt h7, decide_false, Bool.not_false, if_true, if_false]
            · simp only [Nat.not_lt_of_le h5', Nat.not_lt_of_le h7', h7', decide_true, Bool.not_true, Bool.false_eq_true, if_false,
                IoSem.getInt_adv st h7', IoSem.bind_ok, Int.reduceLT, Int.reduceToNat, Nat.le_refl, IoSem.advance_index, IoSem.int_ne_sub, IoSem.int_eq_sub]
              generalize fromBE (List.take 4 _) = v
              by_cases hv : v = 16 + L + 4 <;> simp [hv]
          · -- `4 - length % 4` is a Python int; it is the model's `padOf`, and positive here
            have hp : ((4 : Int) - ((L % 4 : Nat) : Int)) = ((padOf L : Nat) : Int) := by rw [padOf, if_neg h6]; omega
            have hp0 : 0 < ((padOf L : Nat) : Int) := by rw [← hp]; omega
            have h6n : (L % 4 != 0) = true := bne_iff_ne.mpr h6
            have h6b : (L % 4 == 0) = false := beq_false_of_ne h6
            generalize padOf L = P at *
            simp only [hp, h6n, h6b, Bool.not_false, if_true, IoSem.checkRange_adv st _ _ hp0, Int.toNat_natCast, IoSem.bind_ok]
            rcases Nat.lt_or_ge st.rest.length (16 + L + P) with h8 | (h8' : 16 + L + P ≤ st.rest.length)
            · simp only [h8, Nat.not_le_of_lt h8, decide_false, Bool.not_false, if_true]
            · simp only [Nat.not_lt_of_le h8', h8', decide_true, Bool.not_true, Bool.false_eq_true, if_false, IoSem.incIndex_adv st h8' _ _ hp0,
                Int.toNat_natCast, Nat.le_refl, IoSem.bind_ok, IoSem.checkRange_adv st, Int.reduceLT, Int.reduceToNat]
              rcases Nat.lt_or_ge st.rest.length (16 + L + P + 4) with h9 | (h9' : 16 + L + P + 4 ≤ st.rest.length)
              · simp only [h9, Nat.not_le_of_lt h9, decide_false, Bool.not_false, if_true]
              · simp only [Nat.not_lt_of_le h9', h9', decide_true, Bool.not_true, Bool.false_eq_true, if_false, IoSem.getInt_adv st h9', IoSem.bind_ok,
                  Int.reduceLT, Int.reduceToNat, Nat.le_refl, IoSem.advance_index, IoSem.int_ne_sub, IoSem.int_eq_sub]
                generalize fromBE (List.take 4 _) = v
                by_cases hv : v = 16 + L + P + 4 <;> simp [hv]
  )


/-- ★ `C15.string_choice` transported to the regenerated `get_trace_string`: the first string with the same hash, else the LAST
    one whose hash agrees modulo the literal in the source -/
theorem io_get_trace_string_choice (g) (h : Pel.Gen.io_get_trace_string? = some g) (ss : List TraceString) (hv : Nat) :
    g ss hv = specChoice ss hv := by
  rw [io_get_trace_string g h]
  exact C15.string_choice ss hv

end Pel.Tie
