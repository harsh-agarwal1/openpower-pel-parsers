import PelModel.Cli
import PelProofs.CliDir
import PelProofs.Top
import PelProps.C07
/-
  C08 — List, count and display-all agree on the same PELs in file-name order.
  The specification the theorems are stated in is the definitions below (an abstract directory, the files a mode looks at, those it
  selects) together with `C08.extOk` (which names `-e` lets through; PelProofs/FileList.lean) and `C08.specSummary` with `primaryRefcode`,
  `primarySrc`, `primaryMessage` (what an entry of `--list` must show; PelProofs/CliDir.lean): those five stand in the lemma files, in this
  namespace, because the lemmas there are stated with them.
-/
namespace Pel.C08

/-- a directory given abstractly: file name and the PEL stored in it -/
abbrev AFiles := List (Text × APel)

def dirOf (files : AFiles) : Dir := files.map (fun np => { name := np.1, data := np.2.enc })

def displayNames (env : Env) (p : APel) : List Text :=
  sectionName env.T sidPH :: sectionName env.T sidUH ::
    numberNames (p.sections.map (fun sec => sectionName env.T sec.body.id)) (p.sections.map (fun sec => sectionName env.T sec.body.id))

/-- "a directory of well-formed PELs with distinct entry ids" -/
structure GoodDir (env : Env) (files : AFiles) : Prop where
  wf : ∀ np ∈ files, np.2.WF
  renders : ∀ np ∈ files, ∃ d, render env np.2 = .ok d
  names : ∀ np ∈ files, (displayNames env np.2).Nodup
  distinctFiles : (files.map (·.1)).Nodup
  distinctEids : (files.map (·.2.ph.eid)).Nodup

def renderD (env : Env) (p : APel) : J := match render env p with
  | .ok d => d
  | .error _ => .null

def insertAbs (f : Text × APel) : AFiles → AFiles
  | [] => [f]
  | g :: gs => if textLt g.1 f.1 then g :: insertAbs f gs else f :: g :: gs
def sortAbs : AFiles → AFiles
  | [] => []
  | f :: fs => insertAbs f (sortAbs fs)

/-- the files a mode looks at, in presentation order -/
def presented (o : CliOpts) (rev : Bool) (files : AFiles) : AFiles :=
  let l := sortAbs (files.filter (fun np => extOk o.ext np.1))
  if rev then l.reverse else l

/-- the selected PELs, in presentation order -/
def selectedIn (o : CliOpts) (rev : Bool) (files : AFiles) : AFiles :=
  (presented o rev files).filter (fun np => considerPEL np.2.uh.sev np.2.uh.af o.cfg)

/-- `sortAbs` is insertion sort by file name, like the model's `sortByName` -/
theorem presented_eq (o : CliOpts) (rev : Bool) (files : AFiles) :
    presented o rev files = presentedBy Prod.fst (fun np => extOk o.ext np.1) rev files := by
  unfold presented
  rw [sortBy_unique Prod.fst insertAbs sortAbs (fun _ => rfl) (fun _ _ _ => rfl) rfl (fun _ _ => rfl)]
  rfl

/-- the model's file list is the abstract one -/
theorem file_list (o : CliOpts) (rev : Bool) (files : AFiles) :
    getFileList (dirOf files) o.ext rev = dirOf (presented o rev files) := by
  rw [getFileList_eq, presented_eq, dirOf, presentedBy_map Prod.fst (fun f : FileEntry => f.name) _ fun _ => rfl]
  rfl

/-- ★ --extension restricts all three modes to the files with that extension, and loses none of them -/
theorem extension_restricts (o : CliOpts) (rev : Bool) (files : AFiles) (np : Text × APel) :
    np ∈ presented o rev files ↔ np ∈ files ∧ extOk o.ext np.1 = true := by
  rw [presented_eq]
  exact mem_presentedBy _ _ _ _ _

/-- one statement for the three display modes: each is a loop over the file list that keeps something (`v np`) exactly for the files
    whose PEL `considerPEL` selects -/
theorem dirLoop_enc {β γ} (o : CliOpts) (rev : Bool) (files : AFiles) (F : FileEntry → β) (G : β → Option γ) (v : Text × APel → γ)
    (h : ∀ np ∈ files, G (F { name := np.1, data := np.2.enc }) =
      if considerPEL np.2.uh.sev np.2.uh.af o.cfg then some (v np) else none) :
    ((getFileList (dirOf files) o.ext rev).map F).filterMap G = (selectedIn o rev files).map v := by
  rw [file_list, dirOf, List.map_map]
  exact filterMap_sel _ _ _ _ _ fun np hnp => h np ((extension_restricts o rev files np).1 hnp).1

/-- ★ the summary decoder (which stops at the primary SRC) shows exactly the corresponding fields of the PEL -/
theorem summary_fields (env : Env) (cfg : SelCfg) (p : APel) (hp : p.WF) (hr : ∃ d, render env p = .ok d)
    (hsel : considerPEL p.uh.sev p.uh.af cfg = true) :
    parseSummary env cfg p.enc =
      .summary { eid := ox (fmtHex 2 p.ph.eid), fields := specSummary env p } p.ph.plid (primaryRefcode p) :=
  (parseSummary_enc env cfg p hp hr).trans (if_pos hsel)

/-- ★ each --list entry's fields are the corresponding fields of the full decode -/
theorem summary_matches_full (env : Env) (p : APel) (ph uh : List (Text × J)) (l : List (Text × J)) (d : J)
    (hr : render env p = .ok d) (hd : d = .obj l) (hne : sectionName env.T sidPH ≠ sectionName env.T sidUH)
    (hph : objGet? l (sectionName env.T sidPH) = some (.obj ph)) (huh : objGet? l (sectionName env.T sidUH) = some (.obj uh)) :
    objGet? (specSummary env p) (s "PLID") = objGet? ph (s "Platform Log Id") ∧
    objGet? (specSummary env p) (s "CreatorID") = objGet? ph (s "Creator Subsystem") ∧
    objGet? (specSummary env p) (s "Commit Time") = objGet? ph (s "Committed at") ∧
    objGet? (specSummary env p) (s "CompID") = objGet? ph (s "Created by") ∧
    objGet? (specSummary env p) (s "Subsystem") = objGet? uh (s "Subsystem") ∧
    objGet? (specSummary env p) (s "Sev") = objGet? uh (s "Event Severity") := by
  obtain ⟨tail, hd'⟩ := render_obj env p d hr
  rw [hd'] at hd
  cases hd
  simp only [objGet?, hne, if_true, if_false, Option.some.injEq, renderPH, renderUH, J.obj.injEq] at hph huh
  subst hph huh
  -- literal keys looked up in literal member lists: the keys are compared as `String`s (first on the right, once; then on the left)
  simp only [hdrMembers, kv, jstr, List.cons_append, List.nil_append, objGet?, s_eq_iff, String.reduceEq, if_false, if_true]
  unfold specSummary
  cases primaryRefcode p <;> cases primaryMessage env p <;>
    simp only [List.cons_append, List.nil_append, objGet?, s_eq_iff, String.reduceEq, if_false, if_true, and_self]

/-- the `Message` member of a --list entry (present only when the message registry supplies one) is the `Message` of the
    "Error Details" of the full decode's Primary SRC: `x` is the primary SRC, `renderSrc …` what the full decode shows for it -/
theorem summary_message_matches_full (env : Env) (p : APel) (x : ASrc) (hx : primarySrc p = some x) (h : AHdr) (creator : Text) :
    ∃ l, renderSrc env.T env.src h creator env.allowPlugins x = .obj l ∧
      objGet? (specSummary env p) (s "Message") =
        (objGet? l (s "Error Details")).bind fun e => match e with
          | .obj ms => objGet? ms (s "Message")
          | _ => none := by
  obtain ⟨l, hl, hg⟩ := renderSrc_errorDetails env.T env.src h creator env.allowPlugins x
  refine ⟨l, hl, ?_⟩
  rw [hg]
  -- the `Message` member of the entry is `primaryMessage`: `SRC` stands before it, the other keys after it
  have hmsg : objGet? (specSummary env p) (s "Message") = primaryMessage env p := by
    unfold specSummary
    cases primaryRefcode p <;> cases primaryMessage env p <;>
      simp only [List.cons_append, List.nil_append, objGet?, s_eq_iff, String.reduceEq, if_false, if_true]
  rw [hmsg]
  simp only [primaryMessage, hx, Option.bind_some]
  split
  · split <;> rfl
  · rfl

/-- non-vacuity: a registry with one entry, a BD SRC that matches it; the --list entry of a PEL with that primary SRC has the
    member `Message` with the text the registry builds, right after `SRC` -/
def msgReg : List RegEntry := [
  { reasonCode := some (s "0x2600"), type := none, message := s "rc %1, then %2", argSources := some [s "SRCWord6", s "SRCWord9"],
    words := [{ num := s "6", desc := some (s "the rc"), prop := some (s "RC") }] }]
def msgSrc : ASrc :=
  { version := 2, flagsHi := 0, resv1 := 0, wordCount := 9, resv2 := 0, size := 72,
    words := [0, 0, 0, 0, 0xAB, 0, 0, 0x10], ascii := s "BD702600" ++ List.replicate 24 32, callouts := none }
example (env : Env) (hr : env.src.registry = msgReg) (ph : APH) (uh : AUH) (h : AHdr) :
    (specSummary env { ph := ph, uh := uh, sections := [{ hdr := h, body := .src true msgSrc }] }).take 2 =
      [(s "SRC", .str (s "BD702600")), (s "Message", .str (s "rc 0xab, then 0x10"))] := by
  have h1 : errorDetails msgReg msgSrc.ascii msgSrc.words =
      .some [(s "Message", .str (s "rc 0xab, then 0x10")), (s "RC", .arr [.num 0xAB, .str (s "the rc")])] := rfl
  have h2 : msgSrc.ascii.take 2 = s "BD" := by decide +kernel
  have h3 : stripSp msgSrc.ascii = s "BD702600" := by decide +kernel
  simp [specSummary, primaryRefcode, primaryMessage, primarySrc, hr, h1, h2, h3, objGet?, s_eq_iff]

/-- ★ --show-pel-count reports the number of selected PELs -/
theorem count_eq (env : Env) (o : CliOpts) (files : AFiles) (hg : GoodDir env files) :
    (countMode env o (dirOf files)).stdout =
      s "{\n    \"Number of PELs found\": " ++ natDec (selectedIn o false files).length ++ s "\n}\n" := by
  unfold countMode keepSome
  dsimp only
  rw [dirLoop_enc o false files _ _ (fun _ => ()), List.length_map]
  intro np hnp
  rw [countOne_enc env o.cfg np.2 (hg.wf np hnp)]
  cases considerPEL np.2.uh.sev np.2.uh.af o.cfg <;> rfl

/-- ★ --list shows exactly the selected PELs, in presentation order, keyed by entry id -/
theorem list_eq (env : Env) (o : CliOpts) (files : AFiles) (hg : GoodDir env files) (hnohex : o.hex = false) :
    (listMode env o (dirOf files)).stdout =
      prettyPrint 29 (dumps (.obj ((selectedIn o o.rev files).map fun np =>
        (ox (fmtHex 2 np.2.ph.eid), J.obj (specSummary env np.2))))) ++ nl := by
  have hnd : ((selectedIn o o.rev files).map (fun np => ox (fmtHex 2 np.2.ph.eid))).Nodup := by
    have h1 : ((selectedIn o o.rev files).map (fun np => np.2.ph.eid)).Nodup := by
      unfold selectedIn
      rw [presented_eq]
      exact nodup_presentedBy _ _ _ _ _ _ hg.distinctEids
    have h2 := nodup_map_inj (fun e => ox (fmtHex 2 e)) (ox_fmtHex_inj 2) _ h1
    rw [List.map_map] at h2
    exact h2
  unfold listMode
  simp only [hnohex, Bool.false_eq_true, if_false]
  rw [dirLoop_enc o o.rev files _ _ (fun np => (({ name := np.1, data := np.2.enc } : FileEntry),
    ({ eid := ox (fmtHex 2 np.2.ph.eid), fields := specSummary env np.2 } : Summary), np.2.ph.plid, primaryRefcode np.2))]
  · rw [List.map_map, summaryObj_of_nodup, List.map_map]
    · rfl
    · rw [List.map_map]; exact hnd
  · intro np hnp
    simp only [summaryOf_enc env o.cfg np.2 (hg.wf np hnp) (hg.renders np hnp)]
    cases considerPEL np.2.uh.sev np.2.uh.af o.cfg <;> rfl

/-- ★ --all-pels shows exactly the full decodes of the selected PELs, in presentation order -/
theorem all_eq (env : Env) (o : CliOpts) (files : AFiles) (hg : GoodDir env files) (hnohex : o.hex = false) :
    (allMode env o (dirOf files)).stdout =
      listFraming ((selectedIn o o.rev files).map fun np => prettyPrint 34 (dumps (renderD env np.2))) := by
  unfold allMode
  simp only [hnohex, Bool.false_eq_true, if_false]
  rw [dirLoop_enc o o.rev files _ _
    (fun np => (({ name := np.1, data := np.2.enc } : FileEntry), fmtHex 2 np.2.ph.eid, renderD env np.2)), List.map_map]
  · rfl
  · intro np hnp
    obtain ⟨d, hd⟩ := hg.renders np hnp
    have hD : renderD env np.2 = d := by simp only [renderD, hd]
    simp only [fullOf_enc env o.cfg np.2 (hg.wf np hnp) d hd (hg.names np hnp), hD]
    cases considerPEL np.2.uh.sev np.2.uh.af o.cfg <;> rfl

/-- ★ --reverse presents exactly the reverse sequence -/
theorem reverse_is_reverse (o : CliOpts) (files : AFiles) :
    selectedIn o true files = (selectedIn o false files).reverse := by
  unfold selectedIn presented
  simp only [if_true, Bool.false_eq_true, if_false, List.filter_reverse]

/-- ★ the three modes agree on the number of PELs (with or without --reverse) -/
theorem same_number (o : CliOpts) (files : AFiles) :
    (selectedIn o true files).length = (selectedIn o false files).length ∧
    (selectedIn o o.rev files).length = (selectedIn o false files).length := by
  have h : ∀ rev, (selectedIn o rev files).length = (selectedIn o false files).length := by
    intro rev
    cases rev
    · rfl
    · rw [reverse_is_reverse, List.length_reverse]
  exact ⟨h true, h o.rev⟩

/-- ★ presentation order is ascending file-name order -/
theorem order_ascending (o : CliOpts) (files : AFiles) (hd : (files.map (·.1)).Nodup) :
    (presented o false files).Pairwise (fun a b => textLt a.1 b.1 = true) := by
  rw [presented_eq]
  exact sortBy_sorted Prod.fst _ (nodup_filter_names Prod.fst _ files hd)

/-- `textLt` is Python's order on `str`: lexicographic by code point (a strict total order) -/
theorem textLt_total (a b : Text) : textLt a b = true ∨ a = b ∨ textLt b a = true := by
  simp only [textLt_iff]
  by_cases h : a < b
  · exact .inl h
  · exact .inr ((List.le_iff_lt_or_eq.1 (List.not_lt.1 h)).symm.imp Eq.symm id)
theorem textLt_irrefl (a : Text) : textLt a a = false :=
  Bool.eq_false_iff.2 fun h => List.lt_irrefl a (textLt_iff.1 h)
theorem textLt_trans (a b c : Text) (h1 : textLt a b = true) (h2 : textLt b c = true) : textLt a c = true :=
  textLt_iff.2 (List.lt_trans (textLt_iff.1 h1) (textLt_iff.1 h2))

/-- `splitext`: the extension starts at the last dot, unless only dots precede it -/
theorem splitext_simple (stem ext : Text) (hs : ∃ c ∈ stem, c ≠ 46) (he : ∀ c ∈ ext, c ≠ 46) :
    splitext (stem ++ [46] ++ ext) = 46 :: ext := by
  unfold splitext
  have hrev : (stem ++ [46] ++ ext).reverse = ext.reverse ++ 46 :: stem.reverse := by simp
  have hall : ∀ x ∈ ext.reverse, (x != 46) = true := fun c hc => by simpa using he c (List.mem_reverse.1 hc)
  simp only [hrev]
  rw [List.dropWhile_append_of_pos hall, List.takeWhile_append_of_pos hall, List.dropWhile_cons_of_neg (by simp),
    List.takeWhile_cons_of_neg (by simp)]
  simp only [List.append_nil, List.reverse_reverse]
  rw [if_neg]
  obtain ⟨c, hc, hne⟩ := hs
  simp only [List.all_eq_true, List.mem_reverse, beq_iff_eq]
  exact fun hall' => hne (hall' c hc)
theorem splitext_no_dot (name : Text) (h : ∀ c ∈ name, c ≠ 46) : splitext name = [] := by
  unfold splitext
  have : name.reverse.dropWhile (· != 46) = [] := by
    rw [← List.append_nil name.reverse, List.dropWhile_append_of_pos fun c hc => by simpa using h c (List.mem_reverse.1 hc)]
    rfl
  simp only [this]

/-! ### the WHOLE command: `runMain` = `dispatch` followed by the mode it names, on a `World` (model: PelModel/Top.lean) -/

theorem mkConfig_mode_irrelevant (t : List (Text × Nat)) (a : Args) (l n al : Bool) :
    mkConfig t { a with list := l, count := n, all := al } = mkConfig t a := by
  rw [mkConfig_eq, mkConfig_eq]

/-- ★ three command lines that differ ONLY in which of `-n`, `-l`, `-a` is given (`a` has none of the three and no option of higher
    priority; same `-p`, same selection switches, same `-r` / `-e`), run on the same world whose `-p` directory is a directory of well-formed
    PELs with distinct entry ids: there is ONE sequence `S` of selected PELs (ascending file-name order) such that `-n` prints `|S|`, `-l`
    prints one entry per element of `S` and `-a` prints one document per element of `S`, both in the order of `S` — reversed exactly when
    `-r` is on the command line; all three end with status 0 and leave the world as it was -/
theorem command_count_list_all_agree (env : Env) (a : Args) (w : World) (p : Text) (files : AFiles)
    (hh : a.NoHigherMode) (hnd : a.NoDisplayMode) (hp : tv a.path = some p) (hd : w.pathIsDir = true) (hx : a.hex = false)
    (hw : w.dir = dirOf files) (hg : GoodDir (env.withCfg (mkConfig severityGroupTable a)) files) :
    let env' := env.withCfg (mkConfig severityGroupTable a)
    let S := selectedIn (mkConfig severityGroupTable a).opts false files
    let S' := if a.reverse then S.reverse else S
    (runMain env { a with count := true } w).stdout = s "{\n    \"Number of PELs found\": " ++ natDec S.length ++ s "\n}\n" ∧
    (runMain env { a with list := true } w).stdout =
      prettyPrint 29 (dumps (.obj (S'.map fun np => (ox (fmtHex 2 np.2.ph.eid), J.obj (specSummary env' np.2))))) ++ nl ∧
    (runMain env { a with all := true } w).stdout = listFraming (S'.map fun np => prettyPrint 34 (dumps (renderD env' np.2))) ∧
    S'.length = S.length ∧
    (runMain env { a with count := true } w).exit = 0 ∧ (runMain env { a with list := true } w).exit = 0 ∧
    (runMain env { a with all := true } w).exit = 0 ∧
    (runMain env { a with count := true } w).world = w ∧ (runMain env { a with list := true } w).world = w ∧
    (runMain env { a with all := true } w).world = w := by
  intro env' S S'
  have hhex : (mkConfig severityGroupTable a).opts.hex = false := (mkConfig_hex _ a).trans hx
  have hrev : (mkConfig severityGroupTable a).opts.rev = a.reverse := mkConfig_rev _ a
  have hS' : selectedIn (mkConfig severityGroupTable a).opts (mkConfig severityGroupTable a).opts.rev files = S' := by
    rw [hrev]
    show _ = if a.reverse = true then S.reverse else S
    cases a.reverse
    · rfl
    · simp only [if_true]; exact reverse_is_reverse _ files
  -- the three command lines reach the three modes, with the `Config` of `a`
  have hh' : ∀ l n al, Args.NoHigherMode { a with list := l, count := n, all := al } :=
    fun _ _ _ => ⟨hh.file, hh.json, hh.pelID, hh.bmcID, hh.plid, hh.src, hh.srcExclude⟩
  rw [runMain_of_chain (chain_count (hh' a.list true a.all) hp hd hnd.list rfl),
    runMain_of_chain (chain_list (hh' true a.count a.all) hp hd rfl),
    runMain_of_chain (chain_all (hh' a.list a.count true) hp hd hnd.list hnd.count rfl)]
  simp only [cfgOf_false, mkConfig_mode_irrelevant _ a, runAction, ofCli, hw]
  refine ⟨count_eq env' _ files hg, ?_, ?_, hS' ▸ (same_number _ files).2, rfl, rfl, rfl, by simp⟩
  · rw [list_eq env' _ files hg hhex, hS']
  · rw [all_eq env' _ files hg hhex, hS']

/-- ★ (serves C07) which PELs a whole `-l` command line lists in a directory of well-formed PELs: with NO selection option exactly the
    serviceable, customer-viewable ones among the files with the requested extension; with `-E` all of them — in file-name order (reversed
    with `-r`), keyed by entry id -/
theorem command_default_selection_lists (env : Env) (a : Args) (w : World) (p : Text) (files : AFiles)
    (hh : a.NoHigherMode) (hp : tv a.path = some p) (hd : w.pathIsDir = true) (hl : a.list = true) (hx : a.hex = false)
    (hw : w.dir = dirOf files) (hg : GoodDir (env.withCfg (mkConfig severityGroupTable a)) files) :
    let env' := env.withCfg (mkConfig severityGroupTable a)
    let o := (mkConfig severityGroupTable a).opts
    (a.NoSelection → (runMain env a w).stdout =
      prettyPrint 29 (dumps (.obj (((presented o o.rev files).filter
        (fun np => specServiceable np.2.uh.sev np.2.uh.af && !specHidden np.2.uh.af)).map fun np =>
          (ox (fmtHex 2 np.2.ph.eid), J.obj (specSummary env' np.2))))) ++ nl) ∧
    (a.every = true → (runMain env a w).stdout =
      prettyPrint 29 (dumps (.obj ((presented o o.rev files).map fun np =>
          (ox (fmtHex 2 np.2.ph.eid), J.obj (specSummary env' np.2))))) ++ nl) := by
  intro env' o
  have hhex : o.hex = false := (mkConfig_hex _ a).trans hx
  obtain ⟨hrun, hdef, hevery⟩ := Pel.C07.command_default_selection env a w p hh hp hd hl
  have hout : (runMain env a w).stdout = (listMode env' o (dirOf files)).stdout := by rw [hrun, hw]; rfl
  rw [hout, list_eq env' o files hg hhex]
  unfold selectedIn
  constructor
  · intro hs
    rw [List.filter_congr (fun np _ => (hdef hs).2 np.2.uh.sev np.2.uh.af)]
  · intro he
    rw [List.filter_eq_self.2 (fun np _ => hevery he np.2.uh.sev np.2.uh.af)]

/-! Non-vacuity: the hypotheses about the command line hold for `-p /pels -S Critical -e .pel -r`, and an empty directory is a `GoodDir`
    (for directories with PELs `GoodDir` is the hypothesis of `count_eq` / `list_eq` / `all_eq`; `C01.demo_wf` is a well-formed PEL). -/
example : ({ path := some (s "/pels"), severities := [s "Critical"], extension := some (s ".pel"), reverse := true } : Args).NoHigherMode ∧
    ({ path := some (s "/pels"), severities := [s "Critical"], extension := some (s ".pel"), reverse := true } : Args).NoDisplayMode :=
  ⟨⟨rfl, rfl, rfl, rfl, rfl, rfl, rfl⟩, ⟨rfl, rfl, rfl⟩⟩
example (env : Env) : GoodDir env [] :=
  ⟨fun _ h => (nomatch h), fun _ h => (nomatch h), fun _ h => (nomatch h), List.nodup_nil, List.nodup_nil⟩
example : (runMain envDemo { path := some (s "/pels"), count := true } { wDemo with dir := [] }).stdout =
    s "{\n    \"Number of PELs found\": 0\n}\n" ∧
    (runMain envDemo { path := some (s "/pels"), list := true } { wDemo with dir := [] }).stdout = s "{}\n" ∧
    (runMain envDemo { path := some (s "/pels"), all := true, reverse := true } { wDemo with dir := [] }).stdout = s "[\n]\n" := by decide +kernel

-- with real PELs (`wPels`: a hidden PEL, an undecodable file, a selected PEL): `-n` says 1 and `-l` has one entry; with `-E` 2 and two entries,
-- in file-name order (`a_…` before `b_…`), reversed by `-r`
example : (runMain envDemo { path := some (s "/pels"), count := true } wPels).stdout = s "{\n    \"Number of PELs found\": 1\n}\n" ∧
    (runMain envDemo { path := some (s "/pels"), count := true, every := true } wPels).stdout = s "{\n    \"Number of PELs found\": 2\n}\n" ∧
    (runMain envDemo { path := some (s "/pels"), all := true, every := true, hex := true } wPels).stdout =
      linesOut (pelHexDisplay pelDemo) ++ linesOut (pelHexDisplay pelHiddenDemo) ∧
    (runMain envDemo { path := some (s "/pels"), all := true, every := true, hex := true, reverse := true } wPels).stdout =
      linesOut (pelHexDisplay pelHiddenDemo) ++ linesOut (pelHexDisplay pelDemo) ∧
    (runMain envDemo { path := some (s "/pels"), list := true, hex := true } wPels).stdout = linesOut (pelHexDisplay pelDemo) := by
  decide +kernel

end Pel.C08
