import PelModel.Clean
import PelModel.Main
import PelProofs.Clean
import PelProofs.Main
import PelProofs.Top
/-
  C12 — `--clean` never deletes a PEL whose decoded output was not completely written.
  Statements quantify over every number of writes `n`, every fault plan and every prefix of the trace
  (a process that dies has executed a prefix).
-/
namespace Pel.C12

/-- ★ `--json --clean`: if a removal of the input appears anywhere in (a prefix of) the trace, then the PEL was decoded and
    selected, cleaning was requested, and the output was opened, written completely (all `n` writes) and closed,
    all without fault, strictly before the removal -/
theorem json_remove_after_complete (d : DecodeResult) (n : Nat) (clean : Bool) (fault : Nat → Bool)
    (pre : List (Ev × Bool)) (hpre : pre <+: cleanJsonTrace d n clean fault) (ok : Bool) (hrm : (Ev.removeIn, ok) ∈ pre) :
    d = .doc ∧ clean = true ∧
    pre = [(Ev.openOut, true)] ++ List.replicate n (Ev.write, true) ++ [(Ev.closeOut, true)] ++ [(Ev.removeIn, ok)] := by
  rw [cleanJsonTrace_eq] at hpre
  obtain ⟨h1, h2, h3⟩ := cleanTrace_remove_after_complete (jsonBody_no_remove n) hpre hrm
  refine ⟨h1, h2, ?_⟩
  rw [h3]
  simp [jsonBody, List.map_replicate]

/-- ★ `--file --clean`: a removal happens only after the document was printed and stdout flushed, without fault -/
theorem file_remove_after_complete (d : DecodeResult) (clean : Bool) (fault : Nat → Bool)
    (pre : List (Ev × Bool)) (hpre : pre <+: cleanFileTrace d clean fault) (ok : Bool) (hrm : (Ev.removeIn, ok) ∈ pre) :
    d = .doc ∧ clean = true ∧ pre = [(Ev.print, true), (Ev.flushStdout, true), (Ev.removeIn, ok)] := by
  rw [cleanFileTrace_eq] at hpre
  exact cleanTrace_remove_after_complete fileBody_no_remove hpre hrm

/-- ★ if decoding fails, the PEL is filtered out, or opening / any write / closing the output faults, the input is
    still present afterwards -/
theorem json_input_kept (d : DecodeResult) (n : Nat) (clean : Bool) (fault : Nat → Bool)
    (h : d ≠ .doc ∨ clean = false ∨ ∃ k, k ≤ n + 1 ∧ fault k = true) :
    inputRemoved (cleanJsonTrace d n clean fault) = false := by
  rw [cleanJsonTrace_eq]
  refine cleanTrace_kept (jsonBody_no_remove n) ?_
  rw [jsonBody_length]
  exact h.imp_right (Or.imp_right fun ⟨k, hk, hf⟩ => ⟨k, Nat.le_succ_of_le hk, hf⟩)

theorem file_input_kept (d : DecodeResult) (clean : Bool) (fault : Nat → Bool)
    (h : d ≠ .doc ∨ clean = false ∨ ∃ k, k ≤ 1 ∧ fault k = true) :
    inputRemoved (cleanFileTrace d clean fault) = false := by
  rw [cleanFileTrace_eq]
  exact cleanTrace_kept fileBody_no_remove (h.imp_right (Or.imp_right fun ⟨k, hk, hf⟩ => ⟨k, Nat.le_succ_of_le hk, hf⟩))

/-- exactly when nothing faults (including the removal itself) the input is removed -/
theorem json_removed_iff (n : Nat) (fault : Nat → Bool) :
    inputRemoved (cleanJsonTrace .doc n true fault) = true ↔ ∀ k, k ≤ n + 2 → fault k = false := by
  rw [cleanJsonTrace_eq, cleanTrace_removed_iff (jsonBody_no_remove n), jsonBody_length]
  simp only [true_and]

/-- the procedures never touch the input in any other way: the only event that concerns the input is `removeIn` -/
theorem only_remove_touches_input (d : DecodeResult) (n : Nat) (clean : Bool) (fault : Nat → Bool) :
    ∀ e ∈ cleanJsonTrace d n clean fault, e.1 = Ev.openOut ∨ e.1 = Ev.write ∨ e.1 = Ev.closeOut ∨ e.1 = Ev.removeIn := by
  intro e he
  rw [cleanJsonTrace_eq] at he
  rcases cleanTrace_mem he with h | h
  · simp only [jsonBody, List.mem_append, List.mem_singleton, List.mem_replicate] at h
    rcases h with (h | h) | h
    · exact Or.inl h
    · exact Or.inr (Or.inl h.2)
    · exact Or.inr (Or.inr (Or.inl h))
  · exact Or.inr (Or.inr (Or.inr h))

/-! Non-vacuity and the witness of the repaired defect: with the pre-fix order (`removeIn` before `closeOut`) a fault at
    close leaves a trace with a successful removal and a failed close. -/
example : cleanJsonTrace .doc 2 true (fun k => k == 3) =
    [(Ev.openOut, true), (Ev.write, true), (Ev.write, true), (Ev.closeOut, false)] := by decide
example : inputRemoved (runSteps ([Ev.openOut] ++ List.replicate 2 Ev.write ++ [Ev.removeIn, Ev.closeOut]) 0 (fun k => k == 4)) = true := by
  decide

/-! ### the `-f` branch of `main()`: `printed = parseAndPrintPELFile(...)`; `if args.clean and printed: os.remove(args.file)` -/

/-- ★ in the `-f` branch `main` hands a path to `os.remove` only if `--clean` was given AND `parseAndPrintPELFile` returned `True`; the path
    is then the `-f` value itself; and no other branch of `main` calls `os.remove` directly -/
theorem main_file_clean_needs_printed (fs : FsView) (a : Args) (printed : Bool) :
    (∀ p clean, (dispatch fs a).1 = .fileMode p clean →
      a.file = some p ∧ clean = a.clean ∧
      (dispatch fs a).1.afterPrint printed = (if a.clean && printed then some p else none)) ∧
    (∀ q, (dispatch fs a).1.afterPrint printed = some q →
      a.file = some q ∧ a.clean = true ∧ printed = true ∧ (dispatch fs a).1 = .fileMode q true) := by
  have key : ∀ p clean, (dispatch fs a).1 = .fileMode p clean → a.file = some p ∧ clean = a.clean := fun p clean h => by
    have hc := dispatch_chain fs a
    rw [h] at hc
    exact ⟨(tv_some hc.file_inv.1).1, hc.file_inv.2⟩
  refine ⟨fun p clean h => ?_, fun q hq => ?_⟩
  · obtain ⟨h1, h2⟩ := key p clean h
    exact ⟨h1, h2, by rw [h, h2]; rfl⟩
  · obtain ⟨hact, hp⟩ := Action.afterPrint_eq_some.1 hq
    obtain ⟨h1, h2⟩ := key q true hact
    exact ⟨h1, h2.symm, hp, hact⟩

/-- ★ tie to the event model of this property: with `printed` = what `parseAndPrintPELFile` returns (`printedOf`: a document was
    decoded, printed and stdout flushed without fault), `main` attempts the removal exactly when the trace `cleanFileTrace` contains a
    `removeIn` event — so `file_remove_after_complete` / `file_input_kept` speak about what `main` does -/
theorem main_file_remove_iff_trace (p : Text) (clean : Bool) (d : DecodeResult) (fault : Nat → Bool) :
    (Action.fileMode p clean).afterPrint (printedOf d fault) = some p ↔
      ∃ ok, (Ev.removeIn, ok) ∈ cleanFileTrace d clean fault := by
  rw [Action.afterPrint_eq_some, Action.fileMode.injEq]
  simp only [cleanFileTrace_remove_mem, exists_and_left, exists_eq, and_true, true_and]

/-! Non-vacuity: `-f /pels/a --clean`: removed iff printed; without `--clean` never; a flush fault means `printed = False`. -/
example : (dispatch { isDir := fun _ => false, isFile := fun _ => false } { file := some (s "/pels/a"), clean := true }).1.afterPrint true
    = some (s "/pels/a") := by decide +kernel
example : (dispatch { isDir := fun _ => false, isFile := fun _ => false } { file := some (s "/pels/a"), clean := true }).1.afterPrint false
    = none := by decide +kernel
example : (dispatch { isDir := fun _ => false, isFile := fun _ => false } { file := some (s "/pels/a") }).1.afterPrint true = none := by decide +kernel
example : printedOf .doc (fun k => k == 1) = false ∧ printedOf .filtered (fun _ => false) = false ∧
    printedOf .doc (fun k => k == 2) = true := by decide

/-! ### the WHOLE command: `runMain` = `dispatch` followed by the mode it names, on a `World` (model: PelModel/Top.lean) -/

/-- ★ `peltool -f F --clean …` as a whole, on a world in which `F` exists with content `data` (whatever else is on the command line: `-f` has
    the highest priority):
    (1) with no I/O fault, `F` is absent from the new world iff `data` decodes to a selected document;
    (2) under ANY fault plan, `F` is absent iff the C12 event trace `cleanFileTrace` of that decode under that plan contains a successful
        `removeIn` (so `file_remove_after_complete` / `file_input_kept` speak about the whole command);
    (3) under ANY fault plan, `F` is still there unless the document existed and print, flush (and the removal itself) all succeeded;
    (4) nothing else in the world changes -/
theorem command_file_clean (env : Env) (a : Args) (w : World) (f : Text) (data : Bytes) (fault : Nat → Bool)
    (hf : tv a.file = some f) (hc : a.clean = true) (hw : w.file = some data) :
    let c := mkConfig severityGroupTable a
    let env' := env.withCfg c
    let d := decodeResultOf (fullOf env' c.sel { name := f, data := data })
    ((runMain env a w).world.file = none ↔ ∃ eid j, parsePEL env' c.sel data = .doc eid j) ∧
    ((runMainF fault env a w).world.file = none ↔ inputRemoved (cleanFileTrace d true fault) = true) ∧
    ((runMainF fault env a w).world.file = none →
      (∃ eid j, parsePEL env' c.sel data = .doc eid j) ∧ fault 0 = false ∧ fault 1 = false ∧ fault 2 = false) ∧
    ((runMainF fault env a w).world = w ∨ (runMainF fault env a w).world = { w with file := none }) := by
  intro c env' d
  have hch : Chain (w.fsView a) a (.fileMode f a.clean) false := .file hf
  have hrun : ∀ ft, runMainF ft env a w = fileBranch ft env' c (.fileMode f true) f w := by
    intro ft
    rw [runMainF_of_chain hch, hc]
    rfl
  have hdoc : d = .doc ↔ ∃ eid j, parsePEL env' c.sel data = .doc eid j :=
    decodeResultOf_fullOf_doc_iff env' c.sel { name := f, data := data }
  have hgone : ∀ ft, (runMainF ft env a w).world.file = none ↔ printedOf d ft = true ∧ ft 2 = false := fun ft => by
    rw [hrun]
    exact fileBranch_clean_file ft env' c f w data hw
  refine ⟨?_, ?_, ?_, ?_⟩
  · show (runMainF noFault env a w).world.file = none ↔ _
    rw [hgone, printedOf_eq_true, ← hdoc]
    simp [noFault]
  · rw [hgone, cleanFileTrace_removed_iff]
  · rw [hgone, printedOf_eq_true, hdoc]
    exact fun ⟨⟨h, h0, h1⟩, h2⟩ => ⟨h, h0, h1, h2⟩
  · rw [hrun]
    exact (fileBranch_frame fault env' c _ f w).imp_right And.right

/-! Non-vacuity: `-f /in/one.pel --clean` in `wDemo` (the file holds two bytes that are no PEL): the file stays, a diagnostic is written;
    and the hypotheses of `command_file_clean` hold there. -/
example : (runMain envDemo { file := some (s "/in/one.pel"), clean := true } wDemo).world = wDemo ∧
    (runMain envDemo { file := some (s "/in/one.pel"), clean := true } wDemo).diagnostics = 1 ∧
    tv ({ file := some (s "/in/one.pel"), clean := true } : Args).file = some (s "/in/one.pel") ∧ wDemo.file = some [88, 88] := by decide +kernel
-- a file that does not exist: reported, status 0
example : (runMain envDemo { file := some (s "/in/none"), clean := true, deleteAll := true } { wDemo with file := none }).exit = 0 := by decide +kernel

-- with real PELs (`wPels.file` = a selected two-section PEL): printed, then removed; its hidden twin is filtered out and stays;
-- with a fault at print / flush / remove the file stays
example : (runMain envDemo { file := some (s "/in/one.pel"), clean := true } wPels).world = { wPels with file := none } ∧
    (runMain envDemo { file := some (s "/in/one.pel"), clean := true } wPels).stdout ≠ [] ∧
    (runMain envDemo { file := some (s "/in/one.pel") } wPels).world = wPels ∧
    (runMain envDemo { file := some (s "/in/one.pel"), clean := true } { wPels with file := some pelHiddenDemo }).world.file = some pelHiddenDemo ∧
    (runMain envDemo { file := some (s "/in/one.pel"), clean := true, hidden := true } { wPels with file := some pelHiddenDemo }).world.file = none ∧
    (runMainF (fun k => k == 0) envDemo { file := some (s "/in/one.pel"), clean := true } wPels).world = wPels ∧
    (runMainF (fun k => k == 1) envDemo { file := some (s "/in/one.pel"), clean := true } wPels).world = wPels ∧
    (runMainF (fun k => k == 2) envDemo { file := some (s "/in/one.pel"), clean := true } wPels).world = wPels := by decide +kernel

end Pel.C12
