import PelProofs.Select
import PelProofs.Main
import PelProofs.Top
import PelGen.Live
/-
  C07 — PEL selection follows the documented class, severity and only-rules.
-/
namespace Pel.C07

/-! Pins: the constants the live code uses are the ones in the rule. -/
theorem pin_hidden : ∀ v ∈ Live.hiddenActionFlag, v = 0x4000 := by decide
theorem pin_report : ∀ v ∈ Live.reportFlag, v = 0x2000 := by decide
theorem pin_service_action : ∀ v ∈ Live.serviceActionFlag, v = 0x8000 := by decide
theorem pin_info_severity : ∀ v ∈ Live.infoSeverity, v = 0x00 := by decide
theorem pin_term_severity : ∀ v ∈ Live.critSysTermSeverity, v = 0x51 := by decide
/-- the seven `-S` choices and their group digits -/
theorem pin_severity_groups : ∀ v ∈ Live.severityGroupValues, v =
    [(s "Informational", 0), (s "Recovered", 1), (s "Predictive", 2), (s "Unrecoverable", 4),
     (s "Critical", 5), (s "Diagnostic", 6), (s "Symptom", 7)] := by decide +kernel

/-- ★ the early-return chain of `considerPEL` is the documented rule: for every severity byte, every
    action-flag word, every combination of the six switches and every list of chosen groups
    (any order, duplicates allowed), when no look-up id is set -/
theorem considerPEL_eq_spec (sev af : Nat) (c : SelCfg) (hl : c.lookup = false) :
    considerPEL sev af c = selected sev af c := by
  unfold considerPEL selected specInChosenClass anyClass specInGroup critSysTermSeverity
  rw [isServiceable_eq, isHidden_eq, sevMatches_eq, hl]
  have he : c.severities.isEmpty = true → c.severities.contains (sev / 16) = false := by
    intro h; rw [List.isEmpty_iff.1 h]; rfl
  -- What is left is an identity between two Boolean expressions in eleven atoms: the six switches, "serviceable", "hidden",
  -- "severity is 0x51", "the group is in the list" and "the list is empty", the last excluding the one before it: a truth table.
  -- (The atoms are generalised as they stand in `c`: taking `c` apart first would leave its members inside the `Decidable` instances.)
  generalize specServiceable sev af = s
  generalize specHidden af = h
  generalize (sev == 0x51) = t
  generalize c.severities.contains (sev / 16) = m at he ⊢
  generalize c.severities.isEmpty = e at he ⊢
  generalize c.every = every
  generalize c.term = term
  generalize c.serviceable = sv
  generalize c.nonServiceable = ns
  generalize c.hidden = hd
  generalize c.only = only
  revert every term sv ns hd only s h t m e
  decide +kernel

/-- ★ an id / SRC look-up with no selection option considers every PEL, hidden and non-serviceable included -/
theorem lookup_considers_all (sev af : Nat) :
    considerPEL sev af { lookup := true } = true := by
  unfold considerPEL
  simp only [isHidden_eq, isServiceable_eq]
  generalize specServiceable sev af = s
  generalize specHidden af = h
  cases s <;> cases h <;> rfl

/-- with no option exactly the serviceable, customer-viewable PELs are selected -/
theorem default_is_serviceable_visible (sev af : Nat) :
    considerPEL sev af {} = (specServiceable sev af && !specHidden af) := by
  rw [considerPEL_eq_spec _ _ _ rfl]
  simp [selected, specInChosenClass, specInGroup]

theorem every_selects_all (sev af : Nat) (c : SelCfg) (h : c.every = true) : considerPEL sev af c = true := by
  unfold considerPEL; simp [h]

/-- without `--only`, turning on any class switch, `--termination` or adding severity groups never removes a PEL -/
theorem monotone_without_only (sev af : Nat) (c d : SelCfg)
    (hc : c.only = false) (hd : d.only = false) (hcl : c.lookup = false) (hdl : d.lookup = false)
    (h1 : c.every = true → d.every = true) (h2 : c.term = true → d.term = true)
    (h3 : c.serviceable = true → d.serviceable = true) (h4 : c.nonServiceable = true → d.nonServiceable = true)
    (h5 : c.hidden = true → d.hidden = true) (h6 : ∀ g ∈ c.severities, g ∈ d.severities)
    (hsel : considerPEL sev af c = true) : considerPEL sev af d = true := by
  rw [considerPEL_eq_spec _ _ _ hcl] at hsel
  rw [considerPEL_eq_spec _ _ _ hdl]
  have hg : c.severities.contains (sev / 16) = true → d.severities.contains (sev / 16) = true := by
    intro h; simp only [List.contains_iff_mem] at *; exact h6 _ h
  unfold selected specInChosenClass specInGroup at *
  simp only [hc, hd, Bool.not_false, if_true] at *
  generalize specServiceable sev af = s at *
  generalize specHidden af = h at *
  generalize (sev == 0x51) = t at *
  generalize c.severities.contains (sev / 16) = m1 at *
  generalize d.severities.contains (sev / 16) = m2 at *
  cases hde : d.every with
  | true => simp
  | false =>
    have hce : c.every = false := by
      cases hx : c.every with
      | false => rfl
      | true => rw [h1 hx] at hde; exact absurd hde (by decide)
    simp only [hce, Bool.false_eq_true, if_false, Bool.or_eq_true, Bool.and_eq_true] at hsel ⊢
    rcases hsel with ((hx | ⟨hx, ht⟩) | ((⟨hx, hs⟩ | ⟨hx, hs⟩) | ⟨hx, hs⟩)) | hx
    · exact Or.inl (Or.inl (Or.inl hx))
    · exact Or.inl (Or.inl (Or.inr ⟨h2 hx, ht⟩))
    · exact Or.inl (Or.inr (Or.inl (Or.inl ⟨h3 hx, hs⟩)))
    · exact Or.inl (Or.inr (Or.inl (Or.inr ⟨h4 hx, hs⟩)))
    · exact Or.inl (Or.inr (Or.inr ⟨h5 hx, hs⟩))
    · exact Or.inr (hg hx)

/-- group membership is "the high hex digit of the severity byte is the group's digit" -/
theorem group_is_high_digit (sev : Nat) (hs : sev < 256) (groups : List Nat) :
    specInGroup sev groups = groups.contains (hexVal ((hexFix 2 sev)[0]'(by simp))) := by
  have : hexVal ((hexFix 2 sev)[0]'(by simp)) = sev / 16 := by
    simp [hexFix, hexVal_hexU]; omega
  rw [this]; rfl

/-! Non-vacuity / documentation of the repaired defect: with the string-prefix test of the pre-fix code,
    severity 0x04 would have been in group 4; with the rule it is in group 0 only. -/
example : specInGroup 0x04 [4] = false ∧ specInGroup 0x04 [0] = true ∧ specInGroup 0x4F [4] = true := by decide
example : considerPEL 0x40 0xA000 {} = true ∧ considerPEL 0x40 0x6000 {} = false ∧
    considerPEL 0x40 0x6000 { hidden := true } = true ∧
    considerPEL 0x40 0xA000 { only := true, severities := [5] } = false ∧
    considerPEL 0x51 0x4000 { only := true, term := true } = true := by decide

/-! ### `main()`: from the command line to the `Config` that `considerPEL` receives (model: PelModel/Main.lean) -/

/-- the table `mkConfig` is applied to in `dispatch` is the live `severityGroupValues` (names, order, digits) -/
theorem pin_main_severity_table : ∀ v ∈ Live.severityGroupValues, v = severityGroupTable := pin_severity_groups

/-- ★ the block of `if args.x: config.x = …` statements sets every selection member of the `Config` to exactly the corresponding
    switch; `-S` names are translated through the table in the order given, duplicates kept; no look-up id is set there; and the
    non-selection members are `-P`, `-x`, `-r` and a non-empty `-e` -/
theorem main_config_switches (t : List (Text × Nat)) (a : Args) :
    (mkConfig t a).sel.every = a.every ∧ (mkConfig t a).sel.term = a.term ∧
    (mkConfig t a).sel.serviceable = a.serviceable ∧ (mkConfig t a).sel.nonServiceable = a.nonServiceable ∧
    (mkConfig t a).sel.hidden = a.hidden ∧ (mkConfig t a).sel.only = a.only ∧
    (mkConfig t a).sel.severities = a.severities.filterMap (sevLookup t) ∧
    (mkConfig t a).sel.lookup = false ∧
    (mkConfig t a).allowPlugins = (!a.skipPlugins) ∧ (mkConfig t a).hex = a.hex ∧ (mkConfig t a).rev = a.reverse ∧
    (mkConfig t a).ext = tv a.extension := by
  rw [mkConfig_eq]
  exact ⟨rfl, rfl, rfl, rfl, rfl, rfl, rfl, rfl, rfl, rfl, rfl, rfl⟩

/-- argparse only admits names that are keys of the table (`choices`): then no name is dropped, position by position -/
theorem main_severities_all_translated (t : List (Text × Nat)) (a : Args)
    (h : ∀ n ∈ a.severities, ∃ g, sevLookup t n = some g) :
    (mkConfig t a).sel.severities.map some = a.severities.map (sevLookup t) := by
  rw [(main_config_switches t a).2.2.2.2.2.2.1]
  generalize a.severities = l at h
  induction l with
  | nil => rfl
  | cons n ns ih =>
    obtain ⟨g, hg⟩ := h n (List.mem_cons_self ..)
    rw [List.filterMap_cons, hg, List.map_cons, List.map_cons, hg, ih (fun m hm => h m (List.mem_cons_of_mem _ hm))]

/-- with no selection option on the command line the selection part of the `Config` is the default one … -/
theorem main_default_config (t : List (Text × Nat)) (a : Args)
    (h : a.every = false ∧ a.term = false ∧ a.serviceable = false ∧ a.nonServiceable = false ∧ a.hidden = false ∧
         a.only = false ∧ a.severities = []) :
    (mkConfig t a).sel = {} := by
  obtain ⟨h1, h2, h3, h4, h5, h6, h7⟩ := h
  rw [mkConfig_eq]
  simp [h1, h2, h3, h4, h5, h6, h7]

/-- ★ `config.pelID / bmcID / plid / src / srcExcludeFile` is set exactly in the five look-up branches (and in the `--src-exclude`
    branch the assignment precedes the file test, so it is also set when `main` exits there); everything else in the `Config` is
    what `mkConfig` computed -/
theorem main_lookup_flag (fs : FsView) (a : Args) :
    ((dispatch fs a).2.sel.lookup = true ↔
      ((dispatch fs a).1.isLookup = true ∨ ∃ f, (dispatch fs a).1 = .exitMsg (.noExcludeFile f))) ∧
    (dispatch fs a).2 = { mkConfig severityGroupTable a with
                          sel := { (mkConfig severityGroupTable a).sel with lookup := (dispatch fs a).2.sel.lookup } } :=
  ⟨(dispatch_chain fs a).lookup_iff, (dispatch_cfg_eq fs a).trans (cfgOf_eq a _)⟩

/-- whenever `main` actually calls a function, the look-up flag is set iff that function is one of the five look-ups -/
theorem main_lookup_flag_called (fs : FsView) (a : Args) (h : ∀ m, (dispatch fs a).1 ≠ .exitMsg m) :
    (dispatch fs a).2.sel.lookup = true ↔ (dispatch fs a).1.isLookup = true := by
  rw [(main_lookup_flag fs a).1]
  constructor
  · rintro (h1 | ⟨f, hf⟩)
    · exact h1
    · exact absurd hf (h _)
  · exact Or.inl

/-- … so for the plain command line (`-l`, `-n`, `-a`, `-j`, `-f` with no selection option) exactly the serviceable,
    customer-viewable PELs are selected: `default_is_serviceable_visible` applies to what `main` passes on -/
theorem main_plain_command_line (fs : FsView) (a : Args) (sev af : Nat)
    (h : a.every = false ∧ a.term = false ∧ a.serviceable = false ∧ a.nonServiceable = false ∧ a.hidden = false ∧
         a.only = false ∧ a.severities = [])
    (hl : (dispatch fs a).1.isLookup = false) (hx : ∀ f, (dispatch fs a).1 ≠ .exitMsg (.noExcludeFile f)) :
    considerPEL sev af (dispatch fs a).2.sel = (specServiceable sev af && !specHidden af) := by
  have hlk : (dispatch fs a).2.sel.lookup = false := Bool.eq_false_iff.2 fun hb => by
    rcases (main_lookup_flag fs a).1.mp hb with h1 | ⟨f, hf⟩
    · rw [hl] at h1; cases h1
    · exact hx f hf
  rw [(main_lookup_flag fs a).2, hlk, main_default_config _ a h]
  exact default_is_serviceable_visible sev af

/-- … and a look-up given without selection options considers every PEL (`lookup_considers_all` applies) -/
theorem main_lookup_command_line (fs : FsView) (a : Args) (sev af : Nat)
    (h : a.every = false ∧ a.term = false ∧ a.serviceable = false ∧ a.nonServiceable = false ∧ a.hidden = false ∧
         a.only = false ∧ a.severities = [])
    (hl : (dispatch fs a).1.isLookup = true) :
    considerPEL sev af (dispatch fs a).2.sel = true := by
  have hlk : (dispatch fs a).2.sel.lookup = true := (main_lookup_flag fs a).1.mpr (Or.inl hl)
  rw [(main_lookup_flag fs a).2, hlk, main_default_config _ a h]
  exact lookup_considers_all sev af

/-! Non-vacuity: `-p /pels -l -O -S Critical Informational Critical -r -e .pel`, and `-p /pels --plid 50000001 -H`. -/
example : mkConfig severityGroupTable { only := true, severities := [s "Critical", s "Informational", s "Critical"],
                                        reverse := true, extension := some (s ".pel"), skipPlugins := true } =
    { sel := { only := true, severities := [5, 0, 5] }, rev := true, ext := some (s ".pel"), allowPlugins := false } := by decide +kernel
example : mkConfig severityGroupTable { extension := some [] } = {} := by decide +kernel
example : dispatch { isDir := fun _ => true, isFile := fun _ => true } { path := some (s "/pels"), plid := some (s "50000001"), hidden := true } =
    (.plidMode (s "/pels") (s "50000001"), { sel := { hidden := true, lookup := true } }) := by decide +kernel
example : (dispatch { isDir := fun _ => true, isFile := fun _ => true } { path := some (s "/pels"), file := some (s "x"), plid := some (s "50000001") }).2.sel.lookup
    = false := by decide +kernel

/-! ### the WHOLE command: `runMain` = `dispatch` followed by the mode it names, on a `World` (model: PelModel/Top.lean) -/

/-- ★ `peltool -p DIR -l …` as a whole (no option of higher priority, `DIR` a directory) IS `listOption` run on the top-level files of `DIR`
    with the `Config` built from the command line — in every world, whatever the files contain — and the selection that `Config` carries is:
    with NO selection option exactly the serviceable, customer-viewable PELs (`default_is_serviceable_visible` through `mkConfig`);
    with `-E` every PEL (`every_selects_all` through `mkConfig`).  (`C08.command_default_selection_lists` spells the listed set out for a
    directory of well-formed PELs.) -/
theorem command_default_selection (env : Env) (a : Args) (w : World) (p : Text)
    (hh : a.NoHigherMode) (hp : tv a.path = some p) (hd : w.pathIsDir = true) (hl : a.list = true) :
    runMain env a w =
      ofCli w (listMode (env.withCfg (mkConfig severityGroupTable a)) (mkConfig severityGroupTable a).opts w.dir) ∧
    (a.NoSelection →
      (mkConfig severityGroupTable a).opts.cfg = {} ∧
      ∀ sev af, considerPEL sev af (mkConfig severityGroupTable a).opts.cfg = (specServiceable sev af && !specHidden af)) ∧
    (a.every = true → ∀ sev af, considerPEL sev af (mkConfig severityGroupTable a).opts.cfg = true) := by
  refine ⟨?_, ?_, ?_⟩
  · rw [runMain_of_chain (chain_list hh hp hd hl)]
    rfl
  · intro hs
    have hc : (mkConfig severityGroupTable a).opts.cfg = {} := main_default_config _ a hs
    refine ⟨hc, fun sev af => ?_⟩
    rw [hc]
    exact default_is_serviceable_visible sev af
  · intro he sev af
    exact every_selects_all sev af _ ((main_config_switches severityGroupTable a).1.trans he)

/-! Non-vacuity: `-p /pels -l` and `-p /pels -l -E` in `wDemo`. -/
example : ({ path := some (s "/pels"), list := true } : Args).NoHigherMode ∧ ({ path := some (s "/pels"), list := true } : Args).NoSelection ∧
    wDemo.pathIsDir = true := ⟨⟨rfl, rfl, rfl, rfl, rfl, rfl, rfl⟩, ⟨rfl, rfl, rfl, rfl, rfl, rfl, rfl⟩, rfl⟩
example : (runMain envDemo { path := some (s "/pels"), list := true } wDemo).stdout = s "{}\n" ∧
    (runMain envDemo { path := some (s "/pels"), list := true, every := true } wDemo).exit = 0 := by decide +kernel

-- with real PELs (`wPels`): the plain `-l` shows the serviceable, customer-viewable PEL only; `-l -E` and `-l -H` show the hidden one too
example : (runMain envDemo { path := some (s "/pels"), list := true, hex := true } wPels).stdout = linesOut (pelHexDisplay pelDemo) ∧
    (runMain envDemo { path := some (s "/pels"), list := true, hex := true, every := true } wPels).stdout =
      linesOut (pelHexDisplay pelDemo) ++ linesOut (pelHexDisplay pelHiddenDemo) ∧
    (runMain envDemo { path := some (s "/pels"), list := true, hex := true, hidden := true } wPels).stdout =
      linesOut (pelHexDisplay pelDemo) ++ linesOut (pelHexDisplay pelHiddenDemo) := by decide +kernel

end Pel.C07
