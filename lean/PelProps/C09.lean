import PelModel.Cli
import PelProofs.Cli
import PelProofs.CliDir
import PelProofs.Top
/-
  C09 — Unreadable files in a PEL directory never disturb the output for the others.
  In the model the section decoders are readers `Rd α = StateT Bytes (Except Err) α`: they have no way to write to
  standard output at all, so "decoders are silent on stdout" holds by construction; stdout is produced only by the
  mode functions of PelModel/Cli.lean.
-/
namespace Pel.C09

/-- a file the summary modes (--list, --plid, --src) cannot decode / do not select -/
def junkForSummary (env : Env) (cfg : SelCfg) (f : FileEntry) : Prop :=
  ∀ x, summaryOf env cfg f ≠ .some x
def junkForFull (env : Env) (cfg : SelCfg) (f : FileEntry) : Prop :=
  ∀ x, fullOf env cfg f ≠ .some x
def junkForCount (env : Env) (cfg : SelCfg) (f : FileEntry) : Prop :=
  countOne env cfg f ≠ .some ()

/-- adding a junk file anywhere in the directory (walk order is arbitrary) -/
def withJunk (d1 : Dir) (j : FileEntry) (d2 : Dir) : Dir := d1 ++ j :: d2

def distinctNames (d : Dir) : Prop := (d.map (·.name)).Nodup

theorem sort_with_junk (d1 d2 : Dir) (j : FileEntry) (hd : distinctNames (withJunk d1 j d2)) :
    ∃ a b, sortByName (withJunk d1 j d2) = a ++ j :: b ∧ sortByName (d1 ++ d2) = a ++ b := by
  rw [sortByName_eq, sortByName_eq]
  exact sortBy_with_junk (fun f : FileEntry => f.name) d1 d2 j hd

/-! Each mode below is a loop over the file list that keeps the files with a result (`dirLoop_junk`); `j` is a file without one. -/

/-- ★ --list: what is printed, and the exit status, do not change; diagnostics only grow -/
theorem list_noninterference (env : Env) (o : CliOpts) (d1 d2 : Dir) (j : FileEntry)
    (hd : distinctNames (withJunk d1 j d2)) (hj : junkForSummary env o.cfg j) :
    (listMode env o (withJunk d1 j d2)).stdout = (listMode env o (d1 ++ d2)).stdout ∧
    (listMode env o (withJunk d1 j d2)).exit = 0 ∧
    (listMode env o (d1 ++ d2)).stderrLines ≤ (listMode env o (withJunk d1 j d2)).stderrLines := by
  unfold listMode withJunk
  simp only [List.map_map]
  rw [dirLoop_junk _ _ d1 d2 j o.ext o.rev hd]
  · exact ⟨rfl, trivial, dirLoop_junk_diag _ d1 d2 j o.ext o.rev hd⟩
  · rcases FileRes.skip_or_diag hj with h | h <;> simp only [h]

/-- ★ --all-pels -/
theorem all_noninterference (env : Env) (o : CliOpts) (d1 d2 : Dir) (j : FileEntry)
    (hd : distinctNames (withJunk d1 j d2)) (hj : junkForFull env o.cfg j) :
    (allMode env o (withJunk d1 j d2)).stdout = (allMode env o (d1 ++ d2)).stdout ∧
    (allMode env o (withJunk d1 j d2)).exit = 0 := by
  unfold allMode withJunk
  dsimp only
  rw [dirLoop_junk _ _ d1 d2 j o.ext o.rev hd]
  · exact ⟨rfl, rfl⟩
  · rcases FileRes.skip_or_diag hj with h | h <;> simp only [h]

/-- ★ --show-pel-count (junk = files whose two headers cannot be decoded) -/
theorem count_noninterference (env : Env) (o : CliOpts) (d1 d2 : Dir) (j : FileEntry)
    (hd : distinctNames (withJunk d1 j d2)) (hj : junkForCount env o.cfg j) :
    (countMode env o (withJunk d1 j d2)).stdout = (countMode env o (d1 ++ d2)).stdout ∧
    (countMode env o (withJunk d1 j d2)).exit = 0 := by
  unfold countMode withJunk keepSome
  dsimp only
  rw [dirLoop_junk _ _ d1 d2 j o.ext false hd]
  · exact ⟨rfl, rfl⟩
  · rcases FileRes.skip_or_diag (fun _ => hj) with h | h <;> simp only [h]

/-- ★ --plid -/
theorem plid_noninterference (env : Env) (o : CliOpts) (x : Text) (d1 d2 : Dir) (j : FileEntry)
    (hd : distinctNames (withJunk d1 j d2)) (hj : junkForSummary env { o.cfg with lookup := true } j) :
    (plidMode env o x (withJunk d1 j d2)).stdout = (plidMode env o x (d1 ++ d2)).stdout ∧
    (plidMode env o x (withJunk d1 j d2)).exit = (plidMode env o x (d1 ++ d2)).exit := by
  unfold plidMode withJunk
  cases processId x with
  | none => exact ⟨rfl, rfl⟩
  | some pid =>
    dsimp only
    rw [dirLoop_junk _ _ d1 d2 j o.ext o.rev hd]
    · exact ⟨rfl, rfl⟩
    · rcases FileRes.skip_or_diag hj with h | h <;> simp only [h]

/-- ★ --src / --src-exclude -/
theorem src_noninterference (env : Env) (o : CliOpts) (needle ex : Option Text) (d1 d2 : Dir) (j : FileEntry)
    (hd : distinctNames (withJunk d1 j d2)) (hj : junkForSummary env { o.cfg with lookup := true } j) :
    (srcMode env o needle ex (withJunk d1 j d2)).stdout = (srcMode env o needle ex (d1 ++ d2)).stdout ∧
    (srcMode env o needle ex (withJunk d1 j d2)).exit = (srcMode env o needle ex (d1 ++ d2)).exit := by
  unfold srcMode withJunk
  refine ite_out _ _ _ _ ?_
  dsimp only
  rw [dirLoop_junk _ _ d1 d2 j o.ext o.rev hd]
  · exact ⟨rfl, rfl⟩
  · rcases FileRes.skip_or_diag hj with h | h <;> simp only [h]

/-- ★ --json: the same output files are created for the other PELs -/
theorem json_noninterference (env : Env) (o : CliOpts) (clean : Bool) (d1 d2 : Dir) (j : FileEntry)
    (hj : junkForFull env o.cfg j) :
    (jsonMode env o clean (withJunk d1 j d2)).created = (jsonMode env o clean (d1 ++ d2)).created ∧
    (jsonMode env o clean (withJunk d1 j d2)).removed = (jsonMode env o clean (d1 ++ d2)).removed := by
  have hdrop := FileRes.skip_or_diag hj
  unfold jsonMode withJunk
  dsimp only
  refine ⟨?_, ?_⟩
  · rw [filter_filterMap_junk]
    rcases hdrop with h | h <;> simp only [h]
  · cases clean
    · rfl
    · simp only [if_true]
      rw [filter_filterMap_junk]
      rcases hdrop with h | h <;> simp only [h]

/-- ★ whatever the directory contains, stdout of the JSON modes is the print-out of ONE document and the exit status is 0 -/
theorem stdout_is_one_document (env : Env) (o : CliOpts) (d : Dir) (hnohex : o.hex = false) :
    (∃ doc, (listMode env o d).stdout = prettyPrint 29 (dumps doc) ++ nl) ∧
    (∃ docs : List J, (allMode env o d).stdout = listFraming (docs.map fun x => prettyPrint 34 (dumps x))) ∧
    (∃ n, (countMode env o d).stdout = s "{\n    \"Number of PELs found\": " ++ natDec n ++ s "\n}\n") ∧
    (listMode env o d).exit = 0 ∧ (allMode env o d).exit = 0 ∧ (countMode env o d).exit = 0 := by
  unfold listMode allMode countMode
  simp only [hnohex, Bool.false_eq_true, if_false]
  exact ⟨⟨_, rfl⟩, ⟨_, congrArg listFraming (List.map_map (f := fun p : FileEntry × (Text × J) => p.2.2)
    (g := fun x => prettyPrint 34 (dumps x))).symm⟩, ⟨_, rfl⟩, trivial, trivial, trivial⟩

/-- with --hex: a sequence of delimited hex dumps of files of the directory -/
theorem hex_is_dump_sequence (env : Env) (o : CliOpts) (d : Dir) (hhex : o.hex = true) :
    ∃ fs : List FileEntry, (∀ f ∈ fs, f ∈ d) ∧ (allMode env o d).stdout = fs.flatMap (fun f => linesOut (pelHexDisplay f.data)) := by
  unfold allMode
  simp only [hhex, if_true]
  refine ⟨List.map (fun p : FileEntry × (Text × J) => p.1) ?l, ?mem, ?eq⟩
  case eq => rw [List.flatMap_map]
  intro f hf
  simp only [List.mem_map, List.mem_filterMap] at hf
  obtain ⟨p, ⟨q, ⟨f', hf', rfl⟩, hq⟩, rfl⟩ := hf
  have hmem := ((mem_getFileList d o.ext o.rev f').1 hf').1
  split at hq
  · cases hq; exact hmem
  · cases hq

/-! ### the WHOLE command: `runMain` = `dispatch` followed by the mode it names, on a `World` (model: PelModel/Top.lean) -/

/-- "`j` is a file the mode this command line reaches cannot decode": the hypothesis of the per-mode theorem of that mode, for the `Config`
    `main()` built (`-l`: `list_noninterference`, `-a`: `all_…`, `-n`: `count_…`, `--plid`: `plid_…`, `--src` / `--src-exclude`: `src_…`);
    no other mode is covered -/
def JunkFor (env : Env) (sel : SelCfg) (j : FileEntry) : Action → Prop
  | .listMode _ => junkForSummary env sel j
  | .allMode _ => junkForFull env sel j
  | .countMode _ => junkForCount env sel j
  | .plidMode _ _ | .srcMode _ _ | .srcExcludeMode _ _ => junkForSummary env { sel with lookup := true } j
  | _ => False

/-- ★ adding an undecodable file `j` anywhere in the `-p` directory (any walk position) changes neither what the WHOLE command prints nor its
    exit status, for every command line that reaches `-l`, `-a`, `-n`, `--plid`, `--src` or `--src-exclude` — whatever else is on the command
    line (selection switches, `-r`, `-e`, `-x`, lower-priority options) and whatever the rest of the world is; nothing in the world changes
    either.  Hypotheses as in the per-mode theorems: distinct names, `j` undecodable for that mode. -/
theorem command_junk_noninterference (env : Env) (a : Args) (w : World) (d1 d2 : Dir) (j : FileEntry)
    (hw : w.dir = withJunk d1 j d2) (hd : distinctNames (withJunk d1 j d2))
    (hj : JunkFor (env.withCfg (dispatch (w.fsView a) a).2) (dispatch (w.fsView a) a).2.sel j (dispatch (w.fsView a) a).1) :
    (runMain env a w).stdout = (runMain env a { w with dir := d1 ++ d2 }).stdout ∧
    (runMain env a w).exit = (runMain env a { w with dir := d1 ++ d2 }).exit ∧
    (runMain env a w).world = w := by
  unfold runMain runMainF
  simp only [fsView_dir]
  generalize (dispatch (w.fsView a) a).2 = c at hj ⊢
  generalize (dispatch (w.fsView a) a).1 = act at hj ⊢
  cases act <;> simp only [JunkFor] at hj <;> simp only [runAction, ofCli, hw]
  case listMode p => exact ⟨(list_noninterference (env.withCfg c) c.opts d1 d2 j hd hj).1, rfl, trivial⟩
  case allMode p => exact ⟨(all_noninterference (env.withCfg c) c.opts d1 d2 j hd hj).1, rfl, trivial⟩
  case countMode p => exact ⟨(count_noninterference (env.withCfg c) c.opts d1 d2 j hd hj).1, rfl, trivial⟩
  case plidMode p x => exact (plid_noninterference (env.withCfg c) c.opts x d1 d2 j hd hj).imp_right fun h => ⟨h, trivial⟩
  case srcMode p sv =>
    exact (src_noninterference (env.withCfg c) c.opts (some sv) none d1 d2 j hd hj).imp_right fun h => ⟨h, trivial⟩
  case srcExcludeMode p f =>
    exact (src_noninterference (env.withCfg c) c.opts none (some (w.exclude.getD [])) d1 d2 j hd hj).imp_right fun h => ⟨h, trivial⟩

/-- by induction: any number of undecodable files, appended in any order (each one junk for the mode reached) -/
theorem command_junk_list (env : Env) (a : Args) (w : World) (junk : List FileEntry)
    (hd : distinctNames (junk ++ w.dir))
    (hj : ∀ j ∈ junk, JunkFor (env.withCfg (dispatch (w.fsView a) a).2) (dispatch (w.fsView a) a).2.sel j (dispatch (w.fsView a) a).1) :
    (runMain env a { w with dir := junk ++ w.dir }).stdout = (runMain env a w).stdout ∧
    (runMain env a { w with dir := junk ++ w.dir }).exit = (runMain env a w).exit := by
  induction junk with
  | nil => exact ⟨rfl, rfl⟩
  | cons j js ih =>
    have hd' : distinctNames (js ++ w.dir) := by
      unfold distinctNames at hd ⊢
      simp only [List.cons_append, List.map_cons, List.nodup_cons] at hd
      exact hd.2
    obtain ⟨i1, i2⟩ := ih hd' (fun x hx => hj x (List.mem_cons_of_mem _ hx))
    have key := command_junk_noninterference env a { w with dir := j :: js ++ w.dir } [] (js ++ w.dir) j rfl hd
      (hj j (List.mem_cons_self ..))
    simp only [List.nil_append] at key
    exact ⟨key.1.trans i1, key.2.1.trans i2⟩

/-! Non-vacuity: the empty file is junk for every decoder and every `Config`; `-p /pels -l` in `wDemo` with it and without it. -/
example (env : Env) (cfg : SelCfg) (n : Text) :
    junkForSummary env cfg { name := n, data := [] } ∧ junkForFull env cfg { name := n, data := [] } ∧
    junkForCount env cfg { name := n, data := [] } :=
  ⟨fun _ h => (nomatch h), fun _ h => (nomatch h), fun h => (nomatch h)⟩
example : (runMain envDemo { path := some (s "/pels"), list := true } wDemo).stdout =
    (runMain envDemo { path := some (s "/pels"), list := true } { wDemo with dir := [{ name := s "x_50000001", data := [1, 2, 3] }] }).stdout :=
  (command_junk_noninterference envDemo { path := some (s "/pels"), list := true } wDemo [] [{ name := s "x_50000001", data := [1, 2, 3] }]
    { name := s "junk", data := [] } rfl (by unfold distinctNames withJunk; decide +kernel) (fun _ h => (nomatch h))).1

-- with real PELs: `wPels` holds a two-byte file between two PELs; without it every mode prints the same and exits the same
example : (runMain envDemo { path := some (s "/pels"), all := true, every := true } wPels).stdout =
      (runMain envDemo { path := some (s "/pels"), all := true, every := true }
        { wPels with dir := [{ name := s "b_50000002", data := pelHiddenDemo }, { name := s "a_50000001", data := pelDemo }] }).stdout ∧
    (runMain envDemo { path := some (s "/pels"), all := true, every := true } wPels).diagnostics = 1 ∧
    (runMain envDemo { path := some (s "/pels"), count := true, every := true } wPels).stdout = s "{\n    \"Number of PELs found\": 2\n}\n" := by
  decide +kernel

end Pel.C09
