import PelProofs.FramesPel
import PelGen.Live
import PelProps.Golden
/-
  C02 — Header-type sections display exactly the values encoded in the log.
  `renderPH/UH/EH/MT/LP` are written field by field from the PEL layout (PelModel/PelSpec.lean); the theorems say
  that decoding the encoding of any field values (within their widths, any name tables) yields exactly that rendering
  and consumes exactly the section's bytes.
-/
namespace Pel.C02

/-! Pins: every published table entry is still mapped to the same name by the live tables -/
theorem pin_subsystems : ∀ p ∈ Golden.subsystemValues, ∀ live ∈ Live.subsystemValues, lookupN live p.1 = some p.2 := by decide +kernel
theorem pin_severities : ∀ p ∈ Golden.severityValues, ∀ live ∈ Live.severityValues, lookupN live p.1 = some p.2 := by decide +kernel
theorem pin_event_types : ∀ p ∈ Golden.eventTypeValues, ∀ live ∈ Live.eventTypeValues, lookupN live p.1 = some p.2 := by decide +kernel
theorem pin_event_scopes : ∀ p ∈ Golden.eventScopeValues, ∀ live ∈ Live.eventScopeValues, lookupN live p.1 = some p.2 := by decide +kernel
theorem pin_action_flags : ∀ p ∈ Golden.actionFlagsValues, ∀ live ∈ Live.actionFlagsValues, lookupN live p.1 = some p.2 := by decide +kernel
theorem pin_transmission : ∀ p ∈ Golden.transmissionStates, ∀ live ∈ Live.transmissionStates, lookupN live p.1 = some p.2 := by decide +kernel
theorem pin_creators : ∀ p ∈ Golden.creatorIDs, ∀ live ∈ Live.creatorIDs, lookupT live p.1 = some p.2 := by decide +kernel
/-- every key of the live action-flag table is a single bit -/
theorem pin_action_flags_single_bits : ∀ live ∈ Live.actionFlagsValues, ∀ p ∈ live, ∃ k, k < 16 ∧ p.1 = 2 ^ k := by
  decide

/-- ★ Private Header: for all field values within their widths and all tables, the body is consumed exactly and every field is
    displayed as prescribed -/
theorem ph_fields (T : Tables) (p : APH) (hp : p.WF) (count : Nat) (hc : count < 256) (len : Nat) (rest : Bytes) :
    decodePH T (mkSecHdr sidPH len p.hdr) (p.encBody count ++ rest) =
      .ok ((renderPH T p, { creator := [p.creator], sectionCount := count, obmcLogID := p.obmc, plid := p.plid,
                            eid := p.eid, commitTime := bcdTime p.commit }), rest) :=
  (frames_PH T p hp count hc len).exact rest

/-- ★ the same for the User Header -/
theorem uh_fields (T : Tables) (u : AUH) (hu : u.WF) (creator : Text) (len : Nat) (rest : Bytes) :
    decodeUH T (mkSecHdr sidUH len u.hdr) creator (u.encBody ++ rest) =
      .ok ((renderUH T u creator, { severity := u.sev, actionFlags := u.af }), rest) :=
  (frames_UH T u hu creator len).exact rest

/-- ★ … the Extended User Header -/
theorem eh_fields (T : Tables) (h : AHdr) (creator : Text) (e : AEH) (he : e.WF) (id len : Nat) (rest : Bytes) :
    decodeEH T (mkSecHdr id len h) creator (e.encBody ++ rest) = .ok (renderEH T h creator e, rest) :=
  (frames_EH T h creator e he id len).exact rest

/-- ★ … the Failing MTMS section -/
theorem mt_fields (T : Tables) (h : AHdr) (creator : Text) (m : AMT) (hm : m.WF) (id len : Nat) (rest : Bytes) :
    decodeMT T (mkSecHdr id len h) creator (m.encBody ++ rest) = .ok (renderMT T h creator m, rest) :=
  (frames_MT T h creator m hm id len).exact rest

/-- ★ Impacted Partition: every target partition id is displayed -/
theorem lp_fields (T : Tables) (h : AHdr) (creator : Text) (l : ALP) (hl : l.WF) (id len : Nat) (rest : Bytes) :
    decodeLP T (mkSecHdr id len h) creator (l.encBody ++ rest) = .ok (renderLP T h creator l, rest) :=
  (frames_LP T h creator l hl id len).exact rest

/-- ★ the displayed numeric text determines the encoded value: hexadecimal ids … -/
theorem hex_display_injective (w v v' : Nat) (hv : v < 16 ^ w) (hv' : v' < 16 ^ w) (h : hexFix w v = hexFix w v') : v = v' :=
  hexFix_injective w v v' hv hv' h
/-- … ids printed with `{:02X}` (at least two digits, no padding to eight) … -/
theorem id_display_injective (v v' : Nat) (h : fmtHex 2 v = fmtHex 2 v') : v = v' :=
  fmtHex_injective 2 v v' h
/-- … and decimal counts -/
theorem dec_display_injective (v v' : Nat) (h : natDec v = natDec v') : v = v' :=
  natDec_injective v v' h

/-- ★ action flags: the displayed list is exactly the names of the defined bits that are on, in table order -/
theorem action_flags_exact (T : Tables) (u : AUH) (creator : Text)
    (hbits : ∀ p ∈ T.actionFlags, ∃ k, p.1 = 2 ^ k) :
    ∃ rest1 rest2, renderUH T u creator = .obj (rest1 ++ [(s "Action Flags",
        .arr ((T.actionFlags.filter (fun p => u.af / p.1 % 2 = 1)).map (fun p => .str p.2)))] ++ rest2) := by
  rw [renderUH, filter_and_single_bit T.actionFlags u.af hbits]
  -- the header members and four more in front, two behind
  exact ⟨_ ++ [_, _, _, _], [_, _], by simp only [List.append_assoc, List.cons_append, List.nil_append]; rfl⟩

/-- the BCD time stamp is displayed as MM/DD/YYYY HH:MM:SS from the stored digits -/
theorem bcd_time (cc yy mo dd hh mi ss hs : Nat) :
    bcdTime [cc, yy, mo, dd, hh, mi, ss, hs] =
      [hexL (mo / 16), hexL mo, 47, hexL (dd / 16), hexL dd, 47, hexL (cc / 16), hexL cc, hexL (yy / 16), hexL yy, 32,
       hexL (hh / 16), hexL hh, 58, hexL (mi / 16), hexL mi, 58, hexL (ss / 16), hexL ss] := by
  simp [bcdTime, bytesHexL]

/-- text fields are displayed without their NUL padding, characters otherwise unchanged -/
theorem text_without_padding (body : Text) (k : Nat) (hb : body ≠ [] → body.head? ≠ some 0 ∧ body.getLast? ≠ some 0) :
    stripNul (body ++ List.replicate k 0) = body := by
  unfold stripNul lstripChar
  cases body with
  | nil => simp [rstripChar]
  | cons a b =>
    obtain ⟨h1, h2⟩ := hb (by simp)
    rw [List.cons_append, List.dropWhile_cons_of_neg (by simpa using h1), ← List.cons_append]
    refine rstripNul_padded _ k ⟨_, _, (List.dropLast_concat_getLast (List.cons_ne_nil a b)).symm, fun h => h2 ?_⟩
    rw [List.getLast?_eq_some_getLast (List.cons_ne_nil a b), h]

/-- PHYP component ids are two ASCII characters when both bytes are non-zero, else four hex digits -/
theorem compid_phyp (T : Tables) (comp : Nat) (creator : Text) (h : lookupT T.creators creator = some (s "PHYP")) :
    displayCompID T comp creator =
      (if comp / 256 % 256 ≠ 0 ∧ comp % 256 ≠ 0 then [comp / 256 % 256, comp % 256] else fmtHex 4 comp) := by
  unfold displayCompID
  rw [if_pos h]

/-- other creators: the registry name for `%04X` of the id if there is one, else the four hex digits -/
theorem compid_other (T : Tables) (comp : Nat) (creator : Text) (h : lookupT T.creators creator ≠ some (s "PHYP")) :
    displayCompID T comp creator =
      (((T.compIds.find? (fun p => p.1 == creator)).bind (fun e => lookupT e.2 (fmtHex 4 comp))).getD (fmtHex 4 comp)) := by
  unfold displayCompID
  rw [if_neg h]
  cases T.compIds.find? (fun p => p.1 == creator) with
  | none => rfl
  | some e =>
    obtain ⟨c, m⟩ := e
    simp only [Option.bind_some]
    cases lookupT m (fmtHex 4 comp) <;> rfl

end Pel.C02
