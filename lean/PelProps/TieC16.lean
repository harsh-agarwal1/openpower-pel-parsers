import PelGen.GenIoDrawer
import PelProofs.Hlog
import PelProofs.TieIoDrawer
import PelProps.C16
/-
  C16, source tie: `parse_hlog_data` (modules/io_drawer/hlog.py) as harness/trans_iodrawer.py regenerates it from the CURRENT
  source text - heading lines, hex dump, the cursor loop over the fields with its `break`, the `!= 0` test, the format of a field
  line - equals the hand-written `parseHlog`, PROVIDED EVERY FIELD SIZE IS POSITIVE.  The hypothesis is needed: for a field of
  size 0 `stream.check_range(0)` raises AssertionError, while the model function goes on (the header pattern `([12])` only
  allows sizes 1 and 2, see C16.hlog_header_roundtrip; the model says so in its comment).  No stream operation raises otherwise.
-/
set_option linter.unusedSimpArgs false
namespace Pel.Tie

/-- one iteration of the field loop as the model sees it (size 0: the range check raises) -/
def hlogStep (f : HlogField) (acc : List Text) (st : IoSem.Stream) : IoSem.Step (List Text × IoSem.Stream) (IoSem.Res (List Text)) :=
  if f.2 = 0 then .ret .raised
  else if st.index + f.2 ≤ st.data.length then
    let v := fromBE (st.rest.take f.2)
    if v ≠ 0 then .next (acc ++ [hlogFieldLine f.1 f.2 v], st.advance f.2) else .next (acc, st.advance f.2)
  else .brk (acc, st)

theorem hlog_forEach (fn : HlogField → List Text × IoSem.Stream → IoSem.Step (List Text × IoSem.Stream) (IoSem.Res (List Text)))
    (hf : ∀ f acc st, fn f (acc, st) = hlogStep f acc st) :
    ∀ (fields : List HlogField) (acc : List Text) (st : IoSem.Stream), (∀ f ∈ fields, 0 < f.2) →
      IoSem.LoopOut.elim (fun r => r) (fun s => .ok s.1) (IoSem.forEach fields (acc, st) fn) = .ok (acc ++ hlogFields fields st.rest) := by
  intro fields
  induction fields with
  | nil => intro acc st _; simp [IoSem.forEach, hlogFields]
  | cons f fs ih =>
    intro acc st hpos
    obtain ⟨name, size⟩ := f
    have hs : 0 < size := hpos (name, size) (by simp)
    have hs' : size ≠ 0 := by omega
    simp only [IoSem.forEach, hf, hlogStep, hs', if_false, hlogFields, IoSem.index_add_le st size hs]
    by_cases hfit : size ≤ st.rest.length
    · simp only [hfit, if_true]
      by_cases hv : fromBE (List.take size st.rest) = 0
      · simp only [hv, ne_eq, not_true, if_false, List.nil_append]
        rw [ih _ _ (fun f hf => hpos f (by simp [hf])), IoSem.advance_rest]
      · simp only [hv, ne_eq, not_false_eq_true, if_true]
        rw [ih _ _ (fun f hf => hpos f (by simp [hf])), IoSem.advance_rest]
        simp
    · simp [hfit]

theorem io_parse_hlog_data (g) (h : Pel.Gen.io_parse_hlog_data? = some g) :
    ∀ fields b, (∀ f ∈ fields, 0 < f.2) → g fields b = .ok (parseHlog fields b) := by
  cases h <;> (
  intro fields b hpos
  simp only []
  rw [hlog_forEach _ ?hf fields _ _ hpos]
  case hf =>
    intro f acc st
    obtain ⟨name, size⟩ := f
    unfold hlogStep
    simp only []
    by_cases hs : size = 0
    · subst hs; simp [IoSem.checkRange, IoSem.Res.bindStep]
    · have hs' : (0 : Int) < (size : Int) := by omega
      simp only [IoSem.checkRange_rest st _ hs', IoSem.bindStep_ok, Int.toNat_natCast, hs, if_false, IoSem.index_add_le st size (by omega)]
      by_cases hr : size ≤ st.rest.length
      · simp only [hr, decide_true, Bool.not_true, Bool.false_eq_true, if_false, if_true, IoSem.getInt_rest st hr _ hs',
          Int.toNat_natCast, Nat.le_refl, IoSem.bindStep_ok]
        by_cases hv : fromBE (List.take size st.rest) = 0
        · simp [hv]
        · rw [hlogFieldLine, s_ofList]; simp [hv, Nat.mul_comm]
      · simp only [hr, decide_false, Bool.not_false, if_true, if_false]
  · simp only [parseHlog]
    rw [s_ofList, s_ofList, s_ofList, s_ofList]
    simp [IoSem.Stream.new, IoSem.Stream.rest]
  )


/-- ★ `C16.fields_spec` transported: what the source text computes is the declarative rule (contiguous offsets, stop at the first
    field that does not fit, listed iff non-zero) -/
theorem io_parse_hlog_data_spec (g) (h : Pel.Gen.io_parse_hlog_data? = some g) (fields : List HlogField) (b : Bytes)
    (hpos : ∀ f ∈ fields, 0 < f.2) (hb : ∀ x ∈ b, x < 256) :
    g fields b = .ok ([s "Hex Dump", s "--------"] ++ hexdump16 b ++ [[]] ++
      [s "Non-Zero Field Values", s "---------------------"] ++ specHlogFields fields b) := by
  rw [io_parse_hlog_data g h fields b hpos, parseHlog, C16.fields_spec fields b hb]

end Pel.Tie
