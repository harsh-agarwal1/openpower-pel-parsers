import PelGen.GenOutput
import PelProofs.TieOutput
import PelProps.C06
/-
  Source tie for C06 (stream `output`): `keyEndIndex` and `prettyPrint` of peltool.py, regenerated from the source text by
  harness/trans_output.py (PelGen/GenOutput.lean), are the model's `keyEndIndex` (with `keyScan`) and `prettyPrint`
  (PelModel/Json.lean) — the functions C06's theorems are about.

  The Python functions are index loops over mutable locals; the generated terms are state-passing programs in the `Option` monad
  (`none` = raises or runs out of fuel, PelModel/TransOutput.lean).  The model never raises, so each tie says `g … = some (model …)`:
  in particular the regenerated loop terminates within its fuel and never indexes out of range, for every input.
  Python's `keyEndIndex` returns an `int` (-1 = no key): `encIdx` is that encoding of the model's `Option Nat`.
-/
set_option linter.unusedSimpArgs false
namespace Pel.Tie

/-- `keyEndIndex(line)`: skip the blanks, demand a quote, then the escape-aware `while` scan (index + 2 after a backslash, at a quote
    answer the index if a colon follows and -1 otherwise, else index + 1; -1 when the text ends) is the model's `keyEndIndex` -/
theorem keyEndIndex (g : Text → Option Int) (h : Gen.keyEndIndex? = some g) :
    g = fun line => some (encIdx (Pel.keyEndIndex line)) := by
  cases h <;> (
    funext line
    obtain ⟨n, hn, hk⟩ := keyEndIndex_eq line
    simp only [hn]
    rw [pyWhile_rule (fun i => 0 ≤ i) (fun i => ((line.length : Int) - i).toNat) (scanFrom line)]
    · -- before the loop: nothing, or a character that is the quote or is not, stands where the blanks end
      rw [hk]
      rcases drop_cases line n with ⟨hle, hd⟩ | ⟨c, r, hlt, hd⟩
      · simp [hd, pyLen, hle]
      · have hnl : ¬ line.length ≤ n := by omega
        simp [hd, pyLen, pyCharAt_of_drop hd, hnl, scanFrom_add hd, opt_bind_ite]
        -- every leaf follows from the tests of its case (`subst_vars` first: an equation `34 = c` left by a test written the other way
        -- round would otherwise be used by `simp_all` as a rewrite rule for the literal)
        repeat' split
        all_goals first
          | (subst_vars; simp_all; done)
          | omega
    · -- one pass through the body
      intro st hi
      obtain ⟨m, rfl⟩ := Int.eq_ofNat_of_zero_le hi
      rcases drop_cases line m with ⟨hle, _⟩ | ⟨c, r, hlt, hd⟩
      · left
        simp [pyLen, hle, scanFrom_end hle]
      · right
        simp only [pyLen, pyCharAt_of_drop hd, Int.ofNat_lt, hlt, decide_true, Option.pure_def, Option.bind_eq_bind, Option.bind_some,
          true_and, opt_bind_ite, LoopStep.ok_ite]
        simp [pySl_of_drop hd, scanFrom_add hd, opt_bind_ite, LoopStep.ok_ite]
        rw [scanFrom_cons hd, keyScan_cons]
        repeat' split
        -- a pass that goes on: the index stays non-negative and the variant falls by arithmetic, the answer is the same by the tests
        all_goals first
          | (refine ⟨by omega, by omega, ?_⟩; subst_vars; simp_all; done)
          | (subst_vars; simp_all; done)
          | omega
    · omega
    · omega)

/-- `prettyPrint(Mdata, desiredSpace)`: split at the newline, for every line index: unless the line contains `{`, find the key end
    with (the translated) `keyEndIndex`, and if it is not negative replace the line by `line[:ind+CHARACTER_SPACE]`, the padding
    `(desiredSpace - ind) * " "` and `line[ind+CHARACTER_SPACE:]`; join with the newline.  This is the model's `prettyPrint`, for the
    callee the source text defines. -/
theorem prettyPrint (g : (Text → Option Int) → Text → Int → Option Text) (k : Text → Option Int)
    (hk : Gen.keyEndIndex? = some k) (h : Gen.prettyPrint? = some g) :
    (fun (desired : Nat) (t : Text) => g k t (desired : Int)) = fun desired t => some (Pel.prettyPrint desired t) := by
  rw [keyEndIndex k hk]
  cases h <;> (
    funext desired t
    simp only [pySplit1_nl, pyLen]
    refine bind_eq_of_sat (pyFor_len_rule (splitNL t) (fun pre post st => st = pre.map (ppLine desired) ++ post) ?_ _ rfl) ?_
    · -- one pass through the body: the line at the split is replaced by its `ppLine`
      intro pre l post st _ hinv
      subst hinv
      have hn : (pre.map (ppLine desired)).length = pre.length := List.length_map _
      simp only [pyAt?_append_cons _ _ _ _ hn, Option.pure_def, Option.bind_eq_bind, Option.bind_some, pyInStr_single]
      cases hc : l.contains 123
      · cases hke : Pel.keyEndIndex l with
        | none =>
          have hf : ppLine desired l = l := by simp only [ppLine, hc, hke, Bool.false_eq_true, if_false]
          simp [hc, hke, hf]
        | some ind =>
          have hf : ppLine desired l = l.take (ind + 2) ++ spaces (desired - ind) ++ l.drop (ind + 2) := by
            simp only [ppLine, hc, hke, Bool.false_eq_true, if_false]
          have e1 : (ind : Int) + 2 = ((ind + 2 : Nat) : Int) := by omega
          have e2 : ((desired : Int) - (ind : Int)).toNat = desired - ind := by omega
          simp only [hc, hke, Bool.not_false, Bool.false_eq_true, if_true, if_false, encIdx_some, Option.bind_some, ge_iff_le, Int.natCast_nonneg,
            decide_true, opt_bind_ite]
          rw [e1]
          simp only [pySl_to_nat, pySl_from_nat, pyMulStr_single, e2, pyListSet?_append_cons _ _ _ _ _ hn, Option.bind_some, OptSat_some]
          simp [hf, spaces]
      · have hf : ppLine desired l = l := by simp only [ppLine, hc, if_true]
        simp [hc, hf]
    · intro st hst
      subst hst
      simp [Pel.prettyPrint])

/-- the default of `desiredSpace` is the column the model's callers of the full-PEL display pass (`prettyPrint 34`, PelModel/Cli.lean) -/
theorem prettyPrintDefaultSpace (d : Int) (h : Gen.prettyPrintDefaultSpace? = some d) : d = 34 := by
  cases h <;> rfl

/-- C06 ★`aligned_is_structural` for the functions of the source text: the translated `prettyPrint` (calling the translated
    `keyEndIndex`) applied to `json.dumps(doc, indent=4)` never raises and yields the structural rendering `aText` -/
theorem aligned_is_structural (g : (Text → Option Int) → Text → Int → Option Text) (k : Text → Option Int)
    (hk : Gen.keyEndIndex? = some k) (h : Gen.prettyPrint? = some g) (n : Nat) (d : J) :
    g k (dumps d) (n : Int) = some (aText n d 0) := by
  have := congrFun (congrFun (prettyPrint g k hk h) n) (dumps d)
  rw [this, C06.aligned_is_structural]

/-- C06 ★`printed_parses_back` for the functions of the source text -/
theorem printed_parses_back (g : (Text → Option Int) → Text → Int → Option Text) (k : Text → Option Int)
    (hk : Gen.keyEndIndex? = some k) (h : Gen.prettyPrint? = some g) (n : Nat) (d : J) (hw : d.wf = true) :
    (g k (dumps d) (n : Int)).map loads = some (.ok d) := by
  rw [aligned_is_structural g k hk h n d, Option.map_some, ← C06.aligned_is_structural, C06.printed_parses_back n d hw]

/-- C06 ★`key_scan_complete` for the translated `keyEndIndex`: on a member line (indentation, rendered key, colon) it answers the index
    of the closing quote of the COMPLETE key, whatever characters the key contains -/
theorem key_scan_complete (k : Text → Option Int) (hk : Gen.keyEndIndex? = some k) (m : Nat) (key rest : Text) :
    k (spaces m ++ 34 :: (key.flatMap escChar ++ 34 :: 58 :: rest)) = some ((m + 1 + (key.flatMap escChar).length : Nat) : Int) := by
  rw [keyEndIndex k hk]
  simp only [keyEndIndex_quote, C06.key_scan_complete, encIdx_some]

end Pel.Tie
