import PelGen.GenDispatch
import PelProofs.TieDispatch
import PelProps.C18
/-
  Source tie for C18 (stream `dispatch`, harness/trans_dispatch.py → PelGen/GenDispatch.lean): the parser-module routing, regenerated
  from the source text, is the model's.

  * udparsers/m2c00/m2c00.py `parseUDToJson` with `_get_drawer_type` and the four `_parse_*` functions inlined = `Pel.m2c00`
    (sub-type constants and keys, drawer chosen by version, empty data, the error object of an unexpected version);
  * srcparsers/osrc/osrc.py `parseSRCToJson`: the module name = `modPath "srcparsers" (C18.srcModuleName "o" refcode)`, the
    table look-up with its `except ModuleNotFoundError` = `Pel.osrcLookup`;
  * src.py `SRC.parse` and parse_user_data.py `ParseUserData.parseCustom`: the module names given to `importlib.import_module`;
  * calloutparsers/ocallouts/ocallouts.py `getMaintProcDesc` = the `table` behaviour of `CalloutPlugin` in `procDescription`.

  The model indexes environments and module tables by the short module name `n`; the code by `pkg.n.n` = `modPath pkg n`, which is
  injective in `n` (`modPath_injective`).
-/
set_option linter.unusedSimpArgs false
namespace Pel.Tie
open Pel.TieAux

/-! ### udparsers.m2c00 -/

/-- `parseUDToJson(sub_type, version, data)` of the I/O-drawer plugin -/
theorem m2c00 (g : List DrawerTables → Nat → Nat → Bytes → Option J) (hg : Gen.m2c00? = some g) : g = Pel.m2c00 := by
  cases hg <;> funext drawers sub ver data <;> first
  | with_reducible rfl
  | (unfold Pel.m2c00
     simp only [SUB_HLOG, SUB_ILOG, SUB_TRACE, linesJ, hexdumpJ, hexdump16, jstr, kv, s_append, s_append_append, String.reduceAppend]
     -- the sub-type first, so that only one sub-parser of each side is left to be split
     by_cases h1 : sub = 72
     · simp only [h1, Nat.reduceEqDiff, reduceIte]; tie_cases
     by_cases h2 : sub = 73
     · simp only [h2, Nat.reduceEqDiff, reduceIte]; tie_cases
     by_cases h3 : sub = 84
     · simp only [h3, Nat.reduceEqDiff, reduceIte]; tie_cases
     simp only [h1, h2, h3, reduceIte]; tie_cases)

/-- what `parseUDToJson` does for the sub-type the source calls `SUB_TYPE_HLOG` (`_parse_hlog` under the `try` of its caller) -/
theorem m2c00Hlog (g : List DrawerTables → Nat → Bytes → Option J) (hg : Gen.m2c00Hlog? = some g) :
    g = fun drawers ver data => Pel.m2c00 drawers SUB_HLOG ver data := by
  cases hg <;> funext drawers ver data <;> first
  | with_reducible rfl
  | (unfold Pel.m2c00
     simp only [SUB_HLOG, SUB_ILOG, SUB_TRACE, linesJ, hexdumpJ, hexdump16, jstr, kv, s_append, s_append_append, String.reduceAppend,
       Nat.reduceEqDiff, reduceIte]
     tie_cases)

/-- … `SUB_TYPE_ILOG` (`_parse_ilog`) -/
theorem m2c00Ilog (g : List DrawerTables → Nat → Bytes → Option J) (hg : Gen.m2c00Ilog? = some g) :
    g = fun drawers ver data => Pel.m2c00 drawers SUB_ILOG ver data := by
  cases hg <;> funext drawers ver data <;> first
  | with_reducible rfl
  | (unfold Pel.m2c00
     simp only [SUB_HLOG, SUB_ILOG, SUB_TRACE, linesJ, hexdumpJ, hexdump16, jstr, kv, s_append, s_append_append, String.reduceAppend,
       Nat.reduceEqDiff, reduceIte]
     tie_cases)

/-- … `SUB_TYPE_TRACE` (`_parse_trace`) -/
theorem m2c00Trace (g : List DrawerTables → Nat → Bytes → Option J) (hg : Gen.m2c00Trace? = some g) :
    g = fun drawers ver data => Pel.m2c00 drawers SUB_TRACE ver data := by
  cases hg <;> funext drawers ver data <;> first
  | with_reducible rfl
  | (unfold Pel.m2c00
     simp only [SUB_HLOG, SUB_ILOG, SUB_TRACE, linesJ, hexdumpJ, hexdump16, jstr, kv, s_append, s_append_append, String.reduceAppend,
       Nat.reduceEqDiff, reduceIte]
     tie_cases)

/-- C18 ★`m2c00_object` for the translated function: the plugin always returns a JSON object -/
theorem m2c00_object (g : List DrawerTables → Nat → Nat → Bytes → Option J) (hg : Gen.m2c00? = some g)
    (drawers : List DrawerTables) (sub ver : Nat) (data : Bytes) (j : J) (h : g drawers sub ver data = some j) : ∃ l, j = .obj l := by
  rw [m2c00 g hg] at h
  exact C18.m2c00_object drawers sub ver data j h

/-- C18 ★`m2c00_routing` for the translated function -/
theorem m2c00_routing (g : List DrawerTables → Nat → Nat → Bytes → Option J) (hg : Gen.m2c00? = some g)
    (drawers : List DrawerTables) (ver : Nat) (data : Bytes) (d : DrawerTables) (hne : data ≠ [])
    (hd : drawers.find? (fun d => d.version == ver) = some d) :
    g drawers 72 ver data = some (.obj [(s "History Log", linesJ (parseHlog d.fields data))]) ∧
    g drawers 73 ver data = (parseIlog d.pte data).map (fun ls => .obj [(s "ILOG", linesJ ls)]) ∧
    g drawers 84 ver data = (parseTrace d.strs data).map (fun ls => .obj [(s "Trace", linesJ ls)]) := by
  rw [m2c00 g hg]
  exact C18.m2c00_routing drawers ver data d hne hd

/-! ### module names -/

theorem modPath_injective (pkg a b : Text) (h : modPath pkg a = modPath pkg b) : a = b := TieAux.modPath_injective pkg a b h

/-- `ParseUserData.parseCustom`: the module imported is `udparsers.<n>.<n>` with `n` the model's `udModuleName` -/
theorem udParserModule (g : Text → Nat → Text) (hg : Gen.udParserModule? = some g) :
    g = fun creator comp => modPath (s "udparsers") (udModuleName creator comp) := by
  cases hg <;> funext creator comp <;> first
  | with_reducible rfl
  | (simp only [modPath, joinWith, udModuleName]
     first | (simp; done) | (simp [s]; done))

/-- C18 ★`ud_module_name` for the translated name: creator in lower case, component id as four lower-case hex digits -/
theorem ud_module_name (g : Text → Nat → Text) (hg : Gen.udParserModule? = some g) (creator : Text) (comp : Nat) (hc : comp < 65536) :
    g creator comp = modPath (s "udparsers") (creator.map toLowerAscii ++ hexFixL 4 comp) := by
  rw [udParserModule g hg]
  show modPath (s "udparsers") (udModuleName creator comp) = _
  rw [C18.ud_module_name creator comp hc]

/-- `SRC.parse`: the module imported is `srcparsers.<creator, lower case>src.…` -/
theorem srcParserModule (g : Text → Text) (hg : Gen.srcParserModule? = some g) :
    g = fun creator => modPath (s "srcparsers") (creator.map toLowerAscii ++ s "src") := by
  cases hg <;> funext creator <;> first
  | with_reducible rfl
  | (simp only [modPath, joinWith]
     first | (simp; done) | (simp [s]; done))

/-- … which is the module `C18.srcModuleName` names for every creator other than `o` (for `o` it is the wrapper `osrc`) -/
theorem srcParserModule_spec (g : Text → Text) (hg : Gen.srcParserModule? = some g) (creator ascii : Text) :
    g creator = if creator.map toLowerAscii = s "o" then modPath (s "srcparsers") (s "osrc")
                else modPath (s "srcparsers") (C18.srcModuleName creator ascii) := by
  rw [srcParserModule g hg]
  unfold C18.srcModuleName
  split
  · next h => simp only [h]; rfl
  · rfl

/-- `osrc.parseSRCToJson`: the component module named by characters 4..5 of the reference code, `bsrc` for BC codes -/
theorem osrcModuleName (g : Text → Text) (hg : Gen.osrcModuleName? = some g) :
    g = fun ascii => modPath (s "srcparsers") (C18.srcModuleName (s "o") ascii) := by
  cases hg <;> funext ascii <;> first
  | with_reducible rfl
  | (simp only [modPath, C18.srcModuleName, joinWith, lower_o, if_true]
     tie_split)

/-- C18 ★`src_only_that_module` for BMC SRCs, in terms of the translated name: the SRC details depend on the import system only
    through the module whose dotted name the translated `osrc` code builds -/
theorem src_only_that_module (g : Text → Text) (hg : Gen.osrcModuleName? = some g) (env env' : SrcEnv) (creator ascii : Text)
    (hexwords : List Text) (hc : creator.map toLowerAscii = s "o")
    (h : ∀ n, modPath (s "srcparsers") n = g ascii → env.src n = env'.src n) :
    (match srcDetails env creator ascii hexwords, srcDetails env' creator ascii hexwords with
      | .none, .none => True
      | .some a, .some b => a = b
      | .fail, .fail => True
      | .unsupported, .unsupported => True
      | _, _ => False) := by
  apply C18.src_only_that_module
  apply h
  rw [osrcModuleName g hg]
  have e : C18.srcModuleName creator ascii = C18.srcModuleName (s "o") ascii := by
    unfold C18.srcModuleName
    simp only [hc, lower_o]
  rw [e]

/-! ### the module table of `osrc` -/

/-- `osrc.parseSRCToJson` up to the call of the component parser: table look-up, import, `except ModuleNotFoundError` -/
theorem osrcLookup (g : ProcEnv → Cache SrcPlugin → Text → Got SrcPlugin × Cache SrcPlugin) (hg : Gen.osrcLookup? = some g) :
    g = Pel.osrcLookup := by
  cases hg <;> funext env c n <;> first
  | with_reducible rfl
  | (unfold Pel.osrcLookup; tie_cases)

/-! ### calloutparsers.ocallouts -/

/-- `getMaintProcDesc(procedure)`: the description lines of a known procedure as a JSON array, nothing (`''`) otherwise -/
theorem getMaintProcDesc (g : List (Text × List Text) → Text → Option J) (hg : Gen.getMaintProcDesc? = some g) :
    g = fun procs proc => (procDescription.lookupT' procs proc).map fun lines => .arr (lines.map jstr) := by
  cases hg <;> funext procs proc <;> first
  | with_reducible rfl
  | tie_cases

/-- the `table` behaviour of the callout plugin model is the translated function: `procDescription` shows what it returns -/
theorem procDescription_table (g : List (Text × List Text) → Text → Option J) (hg : Gen.getMaintProcDesc? = some g)
    (env : SrcEnv) (creator proc : Text) (procs : List (Text × List Text))
    (he : env.callout (creator.map toLowerAscii) = .table procs) :
    procDescription env creator true proc = (match g procs proc with | some j => [kv "Description" j] | none => []) := by
  rw [getMaintProcDesc g hg]
  unfold procDescription
  simp only [he, Bool.not_true, Bool.false_eq_true, if_false]
  cases procDescription.lookupT' procs proc <;> rfl

end Pel.Tie
