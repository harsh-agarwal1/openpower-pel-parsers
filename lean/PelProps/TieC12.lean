import PelGen.GenEffects
import PelGen.GenPeltool
import PelProofs.TieEffects
import PelProofs.TieEffectsRun
import PelProps.C12
/-
  Source tie for C12 (stream `effects`): `parseAndWriteOutput` and `parseAndPrintPELFile` of peltool.py, regenerated from the source
  text as computations of the effect monad `Eff.M` (PelModel/TransEffects.lean), perform — under EVERY fault plan — exactly the events
  of the model of this property (PelModel/Clean.lean: `cleanJsonTrace`, `cleanFileTrace`), in that order, with the same step failing;
  so ★`json_remove_after_complete` / ★`file_remove_after_complete` are statements about what the source says now.
  `fault k` = the k-th attempted I/O step of the run fails (open for writing, each `write` of `writelines` — one per character of
  the document —, close, print, `sys.stdout.flush()`, `os.remove`), exactly as `runSteps` counts.
-/
set_option linter.unusedSimpArgs false
namespace Pel.Tie
open Pel.Eff

/-! ### `--json [--clean]`: parseAndWriteOutput -/

/-- ★ for every fault plan, the steps `parseAndWriteOutput(file, out, config, clean)` performs on a readable file are `cleanJsonTrace` of
    what the file decodes to: nothing at all unless a document was produced; then open, one write per character, close, and — only with
    `clean`, only after the close succeeded — the removal of the input; the first failing step ends the sequence.  The function itself
    never raises (the failure is reported on stderr), prints nothing, and the input is among the removed paths iff the trace holds a
    successful `removeIn`.  What a `with` does while an exception propagates (`unwind`) is a `close()` and nothing else. -/
theorem parseAndWriteOutput_trace (g : Sys → Text → Text → CliOpts → Bool → M Unit) (h : Gen.parseAndWriteOutput? = some g)
    (y : Sys) (file out : Text) (c : CliOpts) (clean : Bool) (fault : Nat → Bool) (f : FileEntry) (hr : y.read file = some f.data) :
    let fo := fullOf y.env c.cfg f
    let r := (g y file out c clean).run fault
    r.1 = .ok () ∧
    r.2.trace = cleanJsonTrace (decodeResultOf fo) (docLen fo) clean fault ∧
    (∀ e ∈ r.2.unwind, e.1 = Ev.closeOut) ∧
    r.2.removed = (if inputRemoved r.2.trace then [(file, none)] else []) ∧
    r.2.stdout = [] := by
  simp only [M.run, parseAndWriteOutput_run g h y file out c clean fault {} f.data hr, fullOf]
  cases parsePEL y.env c.cfg f.data with
  | doc eid j =>
    simp only [decodeResultOf, docLen, cleanJsonTrace, jsonPlan]
    -- the same splits as the run equation makes (`cases h : …` cannot abstract these tests out of its nested `if`s)
    rcases Bool.eq_false_or_eq_true (fault 0) with h0 | h0
    · simp [h0, runSteps, inputRemoved]
    rcases Bool.eq_false_or_eq_true (allOk fault 1 (prettyPrint 34 (dumps j)).length) with hw | hw
    rcases Bool.eq_false_or_eq_true (fault (1 + (prettyPrint 34 (dumps j)).length)) with hc | hc
    · simp [h0, hw, hc, runSteps, runSteps_replicate_ok, inputRemoved]
    · cases clean with
      | false => simp [h0, hw, hc, runSteps, runSteps_replicate_ok, inputRemoved]
      | true =>
        rcases Bool.eq_false_or_eq_true (fault (1 + (prettyPrint 34 (dumps j)).length + 1)) with hm | hm <;>
          simp [h0, hw, hc, hm, runSteps, runSteps_replicate_ok, inputRemoved]
    · simp [h0, hw, runSteps, runSteps_replicate_fail, inputRemoved]
  | filtered => simp [decodeResultOf, cleanJsonTrace, inputRemoved]
  | badHeader => simp [decodeResultOf, cleanJsonTrace, inputRemoved]
  | error e => simp [decodeResultOf, cleanJsonTrace, inputRemoved]

/-- C12 ★`json_remove_after_complete`, transported to the regenerated `parseAndWriteOutput`: if an attempt to remove the input appears
    anywhere in (a prefix of) what the function did, the PEL was decoded and selected, `clean` was passed, and the output was opened,
    written completely and closed, all without fault, strictly before that attempt — and the clean-up `close()` calls hold no removal -/
theorem translated_json_remove_after_complete (g : Sys → Text → Text → CliOpts → Bool → M Unit) (h : Gen.parseAndWriteOutput? = some g)
    (y : Sys) (file out : Text) (c : CliOpts) (clean : Bool) (fault : Nat → Bool) (f : FileEntry) (hr : y.read file = some f.data)
    (pre : List (Ev × Bool)) (hpre : pre <+: ((g y file out c clean).run fault).2.trace) (ok : Bool) (hrm : (Ev.removeIn, ok) ∈ pre) :
    decodeResultOf (fullOf y.env c.cfg f) = .doc ∧ clean = true ∧
    pre = [(Ev.openOut, true)] ++ List.replicate (docLen (fullOf y.env c.cfg f)) (Ev.write, true) ++ [(Ev.closeOut, true)] ++
      [(Ev.removeIn, ok)] ∧
    ∀ ok', (Ev.removeIn, ok') ∉ ((g y file out c clean).run fault).2.unwind := by
  obtain ⟨_, h2, h3, _, _⟩ := parseAndWriteOutput_trace g h y file out c clean fault f hr
  rw [h2] at hpre
  obtain ⟨a, b, c'⟩ := C12.json_remove_after_complete _ _ clean fault pre hpre ok hrm
  exact ⟨a, b, c', fun ok' hm => by have := h3 _ hm; simp at this⟩

/-- C12 ★`json_input_kept`, transported: no document, no `clean`, or a fault at open / any write / close — the input is not removed -/
theorem translated_json_input_kept (g : Sys → Text → Text → CliOpts → Bool → M Unit) (h : Gen.parseAndWriteOutput? = some g)
    (y : Sys) (file out : Text) (c : CliOpts) (clean : Bool) (fault : Nat → Bool) (f : FileEntry) (hr : y.read file = some f.data)
    (hk : decodeResultOf (fullOf y.env c.cfg f) ≠ .doc ∨ clean = false ∨ ∃ k, k ≤ docLen (fullOf y.env c.cfg f) + 1 ∧ fault k = true) :
    ((g y file out c clean).run fault).2.removed = [] := by
  obtain ⟨_, h2, _, h4, _⟩ := parseAndWriteOutput_trace g h y file out c clean fault f hr
  rw [h4, h2, C12.json_input_kept _ _ clean fault hk]
  rfl

/-- the diagnostics of `parseAndWriteOutput` (the model counts them; their text is pinned here): a PEL that is filtered out or does
    not begin with the two headers, and a decoder exception -/
theorem parseAndWriteOutput_diagnostics (g : Sys → Text → Text → CliOpts → Bool → M Unit) (h : Gen.parseAndWriteOutput? = some g)
    (y : Sys) (file out : Text) (c : CliOpts) (clean : Bool) (fault : Nat → Bool) (data : Bytes) (hr : y.read file = some data) :
    ((parsePEL y.env c.cfg data).isBadHeader = true ∨ (∃ u : Unit, parsePEL y.env c.cfg data = .filtered) →
      ((g y file out c clean).run fault).2.stderr = [s "No PEL parsed for " ++ file]) ∧
    (∀ e, parsePEL y.env c.cfg data = .error e →
      ((g y file out c clean).run fault).2.stderr = [s "No PEL parsed for " ++ file ++ s ": " ++ y.excStr (.decode e)]) := by
  simp only [M.run, parseAndWriteOutput_run g h y file out c clean fault {} data hr]
  cases parsePEL y.env c.cfg data <;> simp [Outcome.isBadHeader, writeMsg]

/-! ### `--file [--clean]`: parseAndPrintPELFile, and what `main()` does with its result -/

/-- ★ `parseAndPrintPELFile(path, config, exit_on_error)` on a readable file, under every fault plan: it returns `printedOf` (`True` iff
    there was a document and both printing it and flushing stdout succeeded) — or leaves through `sys.exit(1)` when the file does not
    begin with the two headers and `exit_on_error` is set —; stdout and the number of diagnostics are `printOne`'s (plus one diagnostic
    when print / flush failed); its steps are `cleanFileTrace` without the removal (print, flush; the first failing step ends the sequence);
    it removes and creates nothing -/
theorem parseAndPrintPELFile (g : Sys → Text → CliOpts → Bool → M Bool) (h : Gen.parseAndPrintPELFile? = some g)
    (y : Sys) (path : Text) (c : CliOpts) (eoe : Bool) (fault : Nat → Bool) (data : Bytes) (hr : y.read path = some data) :
    let f : FileEntry := { name := path, data := data }
    let d := decodeResultOf (fullOf y.env c.cfg f)
    let r := (g y path c eoe).run fault
    r.1 = (if eoe && (parsePEL y.env c.cfg data).isBadHeader then Except.error (.exit 1) else Except.ok (printedOf d fault)) ∧
    r.2.stdout = (if fault 0 then [] else (printOne y.env c c.cfg f).1) ∧
    r.2.stderr.length = (printOne y.env c c.cfg f).2 + (if d == .doc && !printedOf d fault then 1 else 0) ∧
    r.2.trace = cleanFileTrace d false fault ∧ r.2.unwind = [] ∧ r.2.removed = [] ∧ r.2.created = [] := by
  simp only [M.run, parseAndPrintPELFile_run g h, hr, fullOf, printOne]
  -- (`cases parsePEL …` fails here: abstracting the outcome leaves a goal that is not type correct)
  obtain ⟨o, ho⟩ : ∃ o, parsePEL y.env c.cfg data = o := ⟨_, rfl⟩
  simp only [ho]
  cases o with
  | doc eid j =>
    cases h0 : fault 0 <;> cases h1 : fault 1 <;>
      simp [Outcome.isBadHeader, h0, h1, decodeResultOf, printedOf, cleanFileTrace, filePlan, runSteps, shown]
  | filtered => simp [Outcome.isBadHeader, decodeResultOf, printedOf, cleanFileTrace]
  | badHeader => cases eoe <;> simp [Outcome.isBadHeader, decodeResultOf, printedOf, cleanFileTrace]
  | error e => simp [Outcome.isBadHeader, decodeResultOf, printedOf, cleanFileTrace]

/-- a file that cannot be opened: the exception is caught, reported (text pinned), `False` is returned; no step is performed -/
theorem parseAndPrintPELFile_unreadable (g : Sys → Text → CliOpts → Bool → M Bool) (h : Gen.parseAndPrintPELFile? = some g)
    (y : Sys) (path : Text) (c : CliOpts) (eoe : Bool) (fault : Nat → Bool) (hr : y.read path = none) :
    (g y path c eoe).run fault =
      (.ok false, { stderr := [s "Exception: No PEL parsed for " ++ path ++ s ": " ++ y.excStr .noFile] }) := by
  simp only [M.run, parseAndPrintPELFile_run g h, hr, printMsg]
  rfl

/-- the diagnostic of `parseAndPrintPELFile` when decoding raises (text pinned) -/
theorem parseAndPrintPELFile_diagnostic (g : Sys → Text → CliOpts → Bool → M Bool) (h : Gen.parseAndPrintPELFile? = some g)
    (y : Sys) (path : Text) (c : CliOpts) (eoe : Bool) (fault : Nat → Bool) (data : Bytes) (hr : y.read path = some data)
    (e : Err) (he : parsePEL y.env c.cfg data = .error e) :
    ((g y path c eoe).run fault).2.stderr = [s "Exception: No PEL parsed for " ++ path ++ s ": " ++ y.excStr (.decode e)] := by
  simp [M.run, parseAndPrintPELFile_run g h, hr, he, printMsg]

/-- (`Tie.fileAfterPrint` of TieC11.lean, repeated here so that this module does not depend on the C11 tie) -/
theorem fileAfterPrint_guard (g : Args → Text → Bool → Option Text) (h : Gen.fileAfterPrint? = some g) :
    g = fun a f printed => (Action.fileMode f a.clean).afterPrint printed := by
  cases h <;> first
  | rfl
  | (funext a f printed; simp only [Action.afterPrint]; cases a.clean <;> cases printed <;> simp)

/-- the `-f` branch of `main()` after the `Config` block, from its two regenerated parts: `printed = parseAndPrintPELFile(args.file,
    config, True)`; `if args.clean and printed: os.remove(args.file)` (`Gen.fileAfterPrint?`, tied by `fileAfterPrint_guard`) -/
def fileCommand (gp : Sys → Text → CliOpts → Bool → M Bool) (ga : Args → Text → Bool → Option Text)
    (y : Sys) (a : Args) (file : Text) (c : CliOpts) : M Unit :=
  gp y file c true >>= fun printed =>
    match ga a file printed with
    | some p => osRemove p none
    | none => pure ()

/-- ★ the `-f` branch as the source has it now performs, under every fault plan, exactly `cleanFileTrace`: print, flush, and — only with
    `--clean`, only after both succeeded — the removal of the `-f` file itself; and that file is removed iff the trace holds a successful
    `removeIn` -/
theorem file_command_trace (gp : Sys → Text → CliOpts → Bool → M Bool) (hp : Gen.parseAndPrintPELFile? = some gp)
    (ga : Args → Text → Bool → Option Text) (ha : Gen.fileAfterPrint? = some ga)
    (y : Sys) (a : Args) (file : Text) (c : CliOpts) (fault : Nat → Bool) (data : Bytes) (hr : y.read file = some data) :
    let d := decodeResultOf (fullOf y.env c.cfg { name := file, data := data })
    let r := (fileCommand gp ga y a file c).run fault
    r.2.trace = cleanFileTrace d a.clean fault ∧ r.2.unwind = [] ∧
    r.2.removed = (if inputRemoved r.2.trace then [(file, none)] else []) ∧ r.2.created = [] := by
  simp only [fileCommand, fileAfterPrint_guard ga ha, M.run, run_bind, parseAndPrintPELFile_run gp hp, hr, fullOf, Action.afterPrint]
  cases parsePEL y.env c.cfg data with
  | doc eid j =>
    cases hcl : a.clean <;> cases h0 : fault 0 <;> cases h1 : fault 1 <;> cases h2 : fault 2 <;>
      simp [h0, h1, h2, decodeResultOf, cleanFileTrace, filePlan, runSteps, osRemove_eq, step_ok, step_fail, inputRemoved]
  | filtered => simp [decodeResultOf, cleanFileTrace, inputRemoved]
  | badHeader => simp [decodeResultOf, cleanFileTrace, inputRemoved]
  | error e => simp [decodeResultOf, cleanFileTrace, inputRemoved]

/-- C12 ★`file_remove_after_complete`, transported to the `-f` branch as regenerated: an attempt to remove the `-f` file appears only
    after the document was printed and stdout flushed, both without fault, and only with `--clean` -/
theorem translated_file_remove_after_complete (gp : Sys → Text → CliOpts → Bool → M Bool) (hp : Gen.parseAndPrintPELFile? = some gp)
    (ga : Args → Text → Bool → Option Text) (ha : Gen.fileAfterPrint? = some ga)
    (y : Sys) (a : Args) (file : Text) (c : CliOpts) (fault : Nat → Bool) (data : Bytes) (hr : y.read file = some data)
    (pre : List (Ev × Bool)) (hpre : pre <+: ((fileCommand gp ga y a file c).run fault).2.trace) (ok : Bool)
    (hrm : (Ev.removeIn, ok) ∈ pre) :
    decodeResultOf (fullOf y.env c.cfg { name := file, data := data }) = .doc ∧ a.clean = true ∧
    pre = [(Ev.print, true), (Ev.flushStdout, true), (Ev.removeIn, ok)] := by
  obtain ⟨h1, _⟩ := file_command_trace gp hp ga ha y a file c fault data hr
  rw [h1] at hpre
  exact C12.file_remove_after_complete _ a.clean fault pre hpre ok hrm

/-- ★ the `-f` branch as regenerated IS the model's `fileBranch` (PelModel/Top.lean), for every fault plan and every world in which the
    `-f` name reads as the world's `-f` file: same stdout, same number of diagnostics, same exit status, and the file is gone from the new
    world exactly when the regenerated code removed it -/
theorem file_command_is_fileBranch (gp : Sys → Text → CliOpts → Bool → M Bool) (hp : Gen.parseAndPrintPELFile? = some gp)
    (ga : Args → Text → Bool → Option Text) (ha : Gen.fileAfterPrint? = some ga)
    (y : Sys) (a : Args) (file : Text) (mc : MainCfg) (fault : Nat → Bool) (w : World) (hr : y.read file = w.file) :
    let r := (fileCommand gp ga y a file mc.opts).run fault
    let b := fileBranch fault y.env mc (.fileMode file a.clean) file w
    r.2.stdout = b.stdout ∧ r.2.stderr.length = b.diagnostics ∧ (cliOut r).exit = b.exit ∧
    b.world = (if r.2.removed = [] then w else { w with file := none }) := by
  have hsel : mc.opts.cfg = mc.sel := rfl
  simp only [fileCommand, fileAfterPrint_guard ga ha, M.run, run_bind, parseAndPrintPELFile_run gp hp, hr, hsel, fileBranch,
    Action.afterPrint]
  cases w.file with
  | none => simp [cliOut, mainExit]
  | some data =>
    simp only []
    obtain ⟨o, ho⟩ : ∃ o, parsePEL y.env mc.sel data = o := ⟨_, rfl⟩
    cases o with
    | doc eid j =>
      have hp1 := printOne_doc (o := mc.opts) (f := { name := file, data := data }) ho
      simp only [ho, hp1, fullOf, decodeResultOf, printedOf]
      cases hcl : a.clean <;> cases h0 : fault 0 <;> cases h1 : fault 1 <;> cases h2 : fault 2 <;>
        simp [h0, h1, h2, osRemove_eq, step_ok, step_fail, cliOut, mainExit]
    | filtered => simp [ho, fullOf, printOne, decodeResultOf, printedOf, cliOut, mainExit]
    | badHeader => simp [ho, cliOut]
    | error e => simp [ho, fullOf, printOne, decodeResultOf, printedOf, cliOut, mainExit]

end Pel.Tie
