import PelGen.GenIoDrawer
import PelProofs.Ilog
import PelProofs.TieIoDrawer
import PelProps.C14
/-
  C14, source tie: the functions of modules/io_drawer/utils.py and ilog.py that harness/trans_iodrawer.py regenerates from
  the CURRENT source text (lean/PelGen/GenIoDrawer.lean) are equal to the hand-written model functions the C14 theorems are
  about.  `Pel.Gen.<f>? = none` (the source left the translatable subset) makes the theorem about <f> vacuous: then the
  correspondence run is the only tie for that function.
-/
set_option linter.unusedSimpArgs false
namespace Pel.Tie

/-- `format_timestamp` (utils.py) = `formatTimestamp`, for every second counter -/
theorem io_format_timestamp (g) (h : Pel.Gen.io_format_timestamp? = some g) : g = formatTimestamp := by
  cases h <;> (
  funext t
  unfold formatTimestamp
  by_cases hlt : t ≥ 0xFFFF
  · rw [s_ofList]; simp [hlt]
  · simp only [hlt, if_false, Bool.or_eq_true, Bool.and_eq_true, Bool.not_eq_true', decide_eq_true_eq, decide_eq_false_iff_not,
      Nat.not_lt_zero, or_self, false_or, or_false]
    -- minutes and seconds are Python ints (a subtraction made them so); they are not negative, and what is left is arithmetic
    try simp (disch := omega) only [IoSem.fmtDec0I_nonneg, IoSem.fmtDecSpI_nonneg, IoSem.natDecI_nonneg]
    tie_congr
  )

/-- `PTETableEntry._is_reported_error_pte` = `isReportedError` (masks and values are the module constants' literals) -/
theorem io_pte_is_reported_error (g) (h : Pel.Gen.io_pte_is_reported_error? = some g) : g = isReportedError := by
  cases h <;> (
  first
  | rfl
  | (funext pte; simp [isReportedError, Bool.and_comm])
  )

/-- `PTETableEntry._is_exact_match` = `isExactMatch` -/
theorem io_pte_is_exact_match (g) (h : Pel.Gen.io_pte_is_exact_match? = some g) : g = isExactMatch := by
  cases h <;> (
  funext e pte
  simp only [isExactMatch, IoSem.wildFullmatch]
  cases wildMatch e.pattern (fmtHex 8 pte) <;> rfl
  )

/-- `PTETableEntry.matches` = `pteMatches` on 32-bit values (what `get_int(4)` yields).  The hypothesis is needed: Python clears
    the reported flag with `pte &= ~REPORTED_MASK` on an unbounded int, the model masks to 32 bits (`&&& (0xFFFFFFFF - mask)`);
    above 2^32 the two differ (the Python text then still has nine hex digits, the model's has eight). -/
theorem io_pte_matches (g) (h : Pel.Gen.io_pte_matches? = some g) :
    ∀ e pte, pte < 2 ^ 32 → g e pte = pteMatches e pte := by
  cases h <;> (
  intro e pte hp
  unfold pteMatches
  simp (disch := decide) only [IoSem.andNot_eq_and pte _ hp]
  repeat' split
  all_goals simp_all
  )

theorem getEntry_forEach (tbl : List PteEntry) (pte : Nat) (f : PteEntry → Unit → IoSem.Step Unit (Option PteEntry))
    (hf : ∀ e u, f e u = if pteMatches e pte then .ret (some e) else .next ()) :
    IoSem.LoopOut.elim (fun r => r) (fun _ => none) (IoSem.forEach tbl () f) = getEntry tbl pte := by
  induction tbl with
  | nil => rfl
  | cons e es ih =>
    by_cases hc : pteMatches e pte = true
    · simp [IoSem.forEach, getEntry, hf, hc]
    · simp [IoSem.forEach, getEntry, hf, hc]; exact ih

/-- `PTETable.get_entry` (the loop with its early return) = `getEntry` -/
theorem io_get_entry (g) (h : Pel.Gen.io_get_entry? = some g) : g = getEntry := by
  cases h <;> (
  funext tbl pte
  exact getEntry_forEach tbl pte _ (fun e u => by first | rfl | (simp only []; split <;> simp_all))
  )

theorem get_message_args (pte : Nat) (ps : List Nat) :
    optAll ((validParams ps).map (fun (p : Nat) => IoSem.index? (IoSem.toBytesBE 4 (pte &&& 4294967295)) ((p : Int) - 1)))
      = some ((validParams ps).map (pteByte pte)) := by
  apply IoSem.optAll_map_some
  intro p hp
  have hp' : 1 ≤ p ∧ p ≤ 4 := by
    simp only [validParams, List.mem_filter, Bool.and_eq_true, decide_eq_true_eq] at hp
    exact hp.2
  have e : pte &&& 4294967295 = pte % 2 ^ 32 := Nat.and_two_pow_sub_one_eq_mod pte 32
  rw [e]
  unfold pteByte IoSem.toBytesBE
  exact IoSem.index?_pos _ p 0 hp'.1 (by simp; exact hp'.2)

/-- `PTETableEntry.get_message` = `pteMessage` (`none` = the format leaves the modelled `%` subset; the proof shows that the byte
    indexing never raises: the parameters were restricted to 1..4 by `__init__`) -/
theorem io_pte_get_message (g) (h : Pel.Gen.io_pte_get_message? = some g) : g = pteMessage := by
  cases h <;> (
  funext e pte
  unfold pteMessage
  rw [s_ofList]
  simp only []
  rw [show (List.filter (fun x1 => decide (x1 ≥ 1) && decide (x1 ≤ 4)) e.params) = validParams e.params from rfl,
    get_message_args]
  simp only [Option.bind_some]
  cases pyFmtOrRaw e.fmt (List.map (pteByte pte) (validParams e.params)) with
  | none => rfl
  | some m => simp only [Option.bind_some]; split <;> rfl
  )

/-- one iteration of `while stream.check_range(8)` as the model sees it -/
def ilogStep (tbl : List PteEntry) (acc : List Text) (st : IoSem.Stream) : IoSem.Step (List Text × IoSem.Stream) (IoSem.Res (List Text)) :=
  if st.index + 8 ≤ st.data.length then
    let ts := fromBE (st.rest.take 2)
    let seq := fromBE ((st.rest.drop 2).take 2)
    let pte := fromBE ((st.rest.drop 4).take 4)
    if ts = 0 ∧ seq = 0 ∧ pte = 0 then .next (acc, st.advance 8)
    else match ilogLine tbl ts seq pte with
      | none => .ret .unknown
      | some l => .next (acc ++ [l], st.advance 8)
  else .brk (acc, st)

theorem ilog_while (tbl : List PteEntry) (f : List Text × IoSem.Stream → IoSem.Step (List Text × IoSem.Stream) (IoSem.Res (List Text)))
    (hf : ∀ acc st, f (acc, st) = ilogStep tbl acc st) :
    ∀ (fuel : Nat) (acc : List Text) (st : IoSem.Stream), st.rest.length < fuel →
      IoSem.LoopOut.elimW .unknown (fun r => r) (fun s => .ok s.1) (IoSem.whileLoop fuel (acc, st) f) =
        match ilogLoop tbl st.rest with
        | none => .unknown
        | some ls => .ok (acc ++ ls) := by
  intro fuel
  induction fuel with
  | zero => intro acc st h; omega
  | succ k ih =>
    intro acc st h
    rw [ilogLoop]
    simp only [IoSem.whileLoop, hf, ilogStep, IoSem.index_add_le st 8 (by decide)]
    by_cases h8 : 8 ≤ st.rest.length
    · simp only [h8, if_true, dite_true]
      have hlen : (st.advance 8).rest.length < k := by
        rw [IoSem.advance_rest, List.length_drop]; omega
      by_cases hz : fromBE (st.rest.take 2) = 0 ∧ fromBE ((st.rest.drop 2).take 2) = 0 ∧ fromBE ((st.rest.drop 4).take 4) = 0
      · simp only [hz, and_self, if_true]
        rw [ih acc _ hlen, IoSem.advance_rest]
        cases ilogLoop tbl (List.drop 8 st.rest) <;> rfl
      · simp only [hz, if_false]
        cases hl : ilogLine tbl (fromBE (st.rest.take 2)) (fromBE ((st.rest.drop 2).take 2)) (fromBE ((st.rest.drop 4).take 4)) with
        | none =>
          simp only [IoSem.LoopOut.elimW]
          cases ilogLoop tbl (List.drop 8 st.rest) <;> rfl
        | some l =>
          simp only []
          rw [ih _ _ hlen, IoSem.advance_rest]
          cases ilogLoop tbl (List.drop 8 st.rest) <;> simp
    · simp [h8, IoSem.LoopOut.elimW]

/-- `parse_ilog_data` (heading lines, the `while` loop with its all-zero `continue`, look-up, line format) = `parseIlog`;
    `.unknown` = a message format outside the modelled `%` subset (the model's `none`).  The loop fuel chosen by the translator
    (bytes + 1) is shown to suffice; no stream operation raises. -/
theorem io_parse_ilog_data (g) (h : Pel.Gen.io_parse_ilog_data? = some g) :
    g = fun tbl b => IoSem.Res.ofOpt (parseIlog tbl b) := by
  cases h <;> (
  funext tbl b
  simp only []
  rw [ilog_while tbl _ ?hf _ _ _ (by simp [IoSem.Stream.new, IoSem.Stream.rest])]
  case hf =>
    intro acc st
    unfold ilogStep
    simp only [IoSem.checkRange_rest st, IoSem.bindStep_ok, Int.reduceLT, Int.reduceToNat, IoSem.index_add_le st 8 (by decide)]
    by_cases hr : 8 ≤ st.rest.length
    · simp only [hr, decide_true, if_true, IoSem.getInt_rest st hr, IoSem.getInt_adv st hr, IoSem.bindStep_ok,
        Int.reduceLT, Int.reduceToNat, Nat.reduceAdd, Nat.reduceLeDiff]
      generalize fromBE (List.take 2 st.rest) = ts
      generalize fromBE (List.take 2 (List.drop 2 st.rest)) = seq
      generalize fromBE (List.take 4 (List.drop 4 st.rest)) = pte
      by_cases hz : ts = 0 ∧ seq = 0 ∧ pte = 0
      · obtain ⟨h1, h2, h3⟩ := hz; subst h1 h2 h3; simp
      · have hz' : (ts == 0 && seq == 0 && pte == 0) = false := by
          simp only [Bool.and_eq_false_iff, beq_eq_false_iff_ne, ne_eq]; omega
        simp only [hz, hz', Bool.false_eq_true, if_false, ilogLine]
        cases getEntry tbl pte with
        | none => rw [s_ofList]; simp
        | some e => simp only []; generalize pteMessage e pte = m; cases m <;> simp [IoSem.Res.ofOpt, IoSem.Res.bindStep]
    · simp only [hr, decide_false, Bool.false_eq_true, if_false]
  · simp only [parseIlog, ilogHeading, IoSem.Stream.new, IoSem.Stream.rest, List.drop_zero]
    rw [s_ofList, s_ofList]
    cases ilogLoop tbl b <;> simp [IoSem.Res.ofOpt]
  )

/-- ★ `C14.entries_roundtrip` transported to the regenerated `parse_ilog_data`: on every sequence of well-formed entries followed
    by a partial entry the source text produces the lines the property describes -/
theorem io_parse_ilog_data_entries (g) (h : Pel.Gen.io_parse_ilog_data? = some g) (tbl : List PteEntry) (es : List IlogEntry)
    (tail : Bytes) (hes : ∀ e ∈ es, e.WF) (ht : tail.length < 8) :
    g tbl (es.flatMap IlogEntry.enc ++ tail) = IoSem.Res.ofOpt (specIlog tbl es) := by
  rw [io_parse_ilog_data g h]
  simp only [C14.entries_roundtrip tbl es tail hes ht]

/-- ★ `C14.first_match` transported to the regenerated `get_entry`: what the source text says is "first table entry, in header-file
    order, that matches as is or - for a reported error - with the reported flag cleared" -/
theorem io_get_entry_first_match (g) (h : Pel.Gen.io_get_entry? = some g) (tbl : List PteEntry) (pte : Nat) (hp : pte < 2 ^ 32) :
    g tbl pte = tbl.find? (fun e => specMatches e pte) := by
  rw [io_get_entry g h]
  exact C14.first_match tbl pte hp

end Pel.Tie
