import PelProps.C13
import PelProofs.UserData
import PelProofs.Frames
/-
  C04 — User data is rendered from its content or preserved byte-for-byte as a hex dump.
  Statements are about `parseUserData` + `udToJson` (the whole path from payload to the displayed section)
  and `decodeDefault`.
-/
namespace Pel.C04

/-- the section as displayed -/
def shown (T : Tables) (env : UdEnv) (allow : Bool) (h : SecHdr) (creator : Text) (data : Bytes) : Except Err J :=
  udToJson T h creator (parseUserData T env allow creator h.comp h.sub h.ver data)

/-- ★ the "Data" member of a fallback is a lossless dump: its lines parse back to exactly the payload -/
theorem dump_recovers_payload (data : Bytes) (hb : ∀ x ∈ data, x < 256) (hlen : data.length ≤ 2 ^ 32) :
    hexdumpJ data = .arr ((hexdump16 data).map jstr) ∧ parseDump fmtDefault (hexdump16 data) = data :=
  ⟨rfl, Pel.C13.parse_hexdump data hb hlen⟩

/-- ★ (ii) no parser module for this creator/component -/
theorem fallback_absent (T : Tables) (env : UdEnv) (h : SecHdr) (creator : Text) (data : Bytes)
    (hnb : ¬ isBuiltin T creator h.comp) (habs : env (udModuleName creator h.comp) = .absent) :
    shown T env true h creator data = .ok (.obj (headMembers T h creator ++ [kv "Data" (hexdumpJ data)])) := by
  rw [shown, parseUserData_absent T env creator h.comp h.sub h.ver data hnb habs]
  exact udToJson_data T h creator _ (fun m hm => by cases hm)

/-- ★ (iii) parser modules disabled -/
theorem fallback_disabled (T : Tables) (env : UdEnv) (h : SecHdr) (creator : Text) (data : Bytes)
    (hnb : ¬ isBuiltin T creator h.comp) (hne : data ≠ []) :
    shown T env false h creator data = .ok (.obj (headMembers T h creator ++ [kv "Data" (hexdumpJ data)])) := by
  rw [shown, parseUserData_disabled T env creator h.comp h.sub h.ver data hnb, if_pos hne]
  exact udToJson_obj T h creator _ (by simp [headMembers, kv, s_eq_iff])

/-- ★ (iv) the parser module raises: error note + dump -/
theorem fallback_raises (T : Tables) (env : UdEnv) (h : SecHdr) (creator : Text) (data : Bytes) (msg : Text)
    (hnb : ¬ isBuiltin T creator h.comp) (hne : data ≠ []) (hr : env (udModuleName creator h.comp) = .raises msg) :
    ∃ note, shown T env true h creator data =
      .ok (.obj (headMembers T h creator ++ [kv "Error" (jstr note), kv "Data" (hexdumpJ data)])) := by
  obtain ⟨note, e⟩ := parseUserData_error T env creator h.comp h.sub h.ver data hnb (.inl ⟨msg, hr⟩)
  exact ⟨note, by rw [shown, e]; exact udToJson_error T h creator note data hne⟩

/-- ★ (iv') the parser module cannot be loaded for a reason other than "no such module" (executing it raises):
    error note + dump, exactly as for a failing call -/
theorem fallback_import_raises (T : Tables) (env : UdEnv) (h : SecHdr) (creator : Text) (data : Bytes) (msg : Text)
    (hnb : ¬ isBuiltin T creator h.comp) (hne : data ≠ []) (hr : env (udModuleName creator h.comp) = .importRaises msg) :
    ∃ note, shown T env true h creator data =
      .ok (.obj (headMembers T h creator ++ [kv "Error" (jstr note), kv "Data" (hexdumpJ data)])) := by
  obtain ⟨note, e⟩ := parseUserData_error T env creator h.comp h.sub h.ver data hnb (.inr (.inl ⟨msg, hr⟩))
  exact ⟨note, by rw [shown, e]; exact udToJson_error T h creator note data hne⟩

/-- ★ (v) the parser module returns nothing: error note + dump -/
theorem fallback_none (T : Tables) (env : UdEnv) (h : SecHdr) (creator : Text) (data : Bytes)
    (hnb : ¬ isBuiltin T creator h.comp) (hne : data ≠ []) (hr : env (udModuleName creator h.comp) = .returnsNone) :
    ∃ note, shown T env true h creator data =
      .ok (.obj (headMembers T h creator ++ [kv "Error" (jstr note), kv "Data" (hexdumpJ data)])) := by
  obtain ⟨note, e⟩ := parseUserData_error T env creator h.comp h.sub h.ver data hnb (.inr (.inr hr))
  exact ⟨note, by rw [shown, e]; exact udToJson_error T h creator note data hne⟩

/-- built-in component, sub-type other than JSON / text (CBOR, custom, …): dump -/
theorem builtin_other_subtype (T : Tables) (env : UdEnv) (allow : Bool) (h : SecHdr) (creator : Text) (data : Bytes)
    (hb : isBuiltin T creator h.comp) (h1 : h.sub ≠ 1) (h3 : h.sub ≠ 3) :
    shown T env allow h creator data = .ok (.obj (headMembers T h creator ++ [kv "Data" (hexdumpJ data)])) := by
  rw [shown, parseUserData_builtin T env allow creator h.comp h.sub h.ver data hb, builtinFormat, if_neg h1, if_neg h3]
  exact udToJson_data T h creator _ (fun m hm => by cases hm)

/-- ★ (i) an unrecognised / hexdump-only section type: the entry carries the dump of exactly its payload -/
theorem unrecognised_type (h : SecHdr) (data rest : Bytes) (hlen : h.len = 8 + data.length) (hne : 1 ≤ data.length) :
    decodeDefault h (data ++ rest) =
      .ok (.obj [kv "Section Version" (jnum h.ver), kv "Sub-section type" (jnum h.sub),
                 kv "Created by" (jstr (ox (fmtHex 2 h.comp))), kv "Data" (hexdumpJ data)], rest) := by
  rw [decodeDefault, show h.len - 8 = data.length by omega, getMem_bind _ data rest hne]
  rfl

/-- the lines of the built-in text format: the text is split at newlines, every character outside 0x20..0x7E is
    replaced by '.', all other characters are kept in order; a final empty line is not listed -/
def specLines (t : Text) : List Text :=
  let ls := (splitNL t).map (fun l => l.map (fun ch => if ch < 32 ∨ ch > 126 then 46 else ch))
  if ls.getLast? = some [] then ls.dropLast else ls

theorem text_lines_spec (t : Text) : textLinesGo t [] = specLines t := by
  obtain ⟨l, ls, e⟩ := List.exists_cons_of_ne_nil (splitNL_ne_nil t)
  rw [textLinesGo_gen t [] l ls e]
  simp only [specLines, e, List.map_cons, List.nil_append, finLines]
  rfl

/-- ★ built-in text format: the lines of the (whitespace/NUL-stripped) text with only non-printables replaced -/
theorem builtin_text (T : Tables) (env : UdEnv) (allow : Bool) (h : SecHdr) (creator : Text) (data : Bytes) (t : Text)
    (hb : isBuiltin T creator h.comp) (h3 : h.sub = 3) (hd : utf8Decode data = some t) :
    shown T env allow h creator data =
      .ok (.obj (headMembers T h creator ++ [kv "Data" (.arr ((specLines (rstripChar 0 (stripSp t))).map jstr))])) := by
  have h31 : ¬ h.sub = 1 := by omega
  rw [shown, parseUserData_builtin T env allow creator h.comp h.sub h.ver data hb, builtinFormat, if_neg h31, if_pos h3, hd,
    ← text_lines_spec]
  exact udToJson_data T h creator _ (fun m hm => by cases hm)

/-- ★ built-in JSON format, object: every member of the user's object is displayed with its value
    (members whose key collides with a header key replace that key's value in place) -/
theorem builtin_json_object (T : Tables) (env : UdEnv) (allow : Bool) (h : SecHdr) (creator : Text) (data : Bytes) (t : Text)
    (members : List (Text × J))
    (hb : isBuiltin T creator h.comp) (h1 : h.sub = 1) (hd : utf8Decode data = some t)
    (hl : loads (rstripChar 0 (stripSp t)) = .ok (.obj members)) :
    shown T env allow h creator data = .ok (.obj (objUpdate (headMembers T h creator) members)) := by
  rw [shown, parseUserData_builtin T env allow creator h.comp h.sub h.ver data hb, builtinFormat, if_pos h1, hd]
  rw [udToJson_text T h creator _ _ hl]; rfl

theorem objUpdate_shows_all (head members : List (Text × J)) (hd : (members.map (·.1)).Nodup) :
    ∀ kv ∈ members, objGet? (objUpdate head members) kv.1 = some kv.2 :=
  objGet?_objUpdate_mem members head hd

/-- built-in JSON format, any other JSON value: displayed under "Data" -/
theorem builtin_json_value (T : Tables) (env : UdEnv) (allow : Bool) (h : SecHdr) (creator : Text) (data : Bytes) (t : Text)
    (j : J) (hb : isBuiltin T creator h.comp) (h1 : h.sub = 1) (hd : utf8Decode data = some t)
    (hl : loads (rstripChar 0 (stripSp t)) = .ok j) (hno : ∀ m, j ≠ .obj m) :
    shown T env allow h creator data = .ok (.obj (headMembers T h creator ++ [kv "Data" j])) := by
  rw [shown, parseUserData_builtin T env allow creator h.comp h.sub h.ver data hb, builtinFormat, if_pos h1, hd]
  rw [udToJson_text T h creator _ _ hl]
  exact udToJson_data T h creator j hno

/-- ★ round trip for the built-in JSON format: a payload that is the JSON text of a document `d` (as printed by
    `json.dumps`, any indentation column), optionally NUL padded, is displayed as that same value -/
theorem builtin_json_roundtrip (T : Tables) (env : UdEnv) (allow : Bool) (h : SecHdr) (creator : Text) (d : J) (n pad : Nat)
    (hb : isBuiltin T creator h.comp) (h1 : h.sub = 1) (hw : d.wf = true) :
    shown T env allow h creator (aText n d 0 ++ List.replicate pad 0) =
      .ok (match d with
        | .obj members => .obj (objUpdate (headMembers T h creator) members)
        | j => .obj (headMembers T h creator ++ [kv "Data" j])) := by
  obtain ⟨hd, hs⟩ := builtin_sees_aText n d pad
  have hl : loads (rstripChar 0 (stripSp (aText n d 0 ++ List.replicate pad 0))) = .ok d := by
    rw [hs]; exact loads_aText n d hw
  cases d with
  | obj m => exact builtin_json_object T env allow h creator _ _ m hb h1 hd hl
  | _ => exact builtin_json_value T env allow h creator _ _ _ hb h1 hd hl (by intro m hm; cases hm)

/-- ★ payload bytes are never silently dropped: whatever the environment does, the displayed section is computed
    from the payload by a decoder (built-in format or parser module) or contains the lossless dump of the payload -/
theorem never_dropped (T : Tables) (env : UdEnv) (allow : Bool) (h : SecHdr) (creator : Text) (data : Bytes) (hne : data ≠ []) :
    (isBuiltin T creator h.comp ∧ (h.sub = 1 ∨ h.sub = 3)) ∨
    (allow = true ∧ ¬ isBuiltin T creator h.comp ∧
      (env (udModuleName creator h.comp) = .echo ∨ ∃ t, env (udModuleName creator h.comp) = .returnsText t)) ∨
    (∃ pre, shown T env allow h creator data = .ok (.obj (headMembers T h creator ++ pre ++ [kv "Data" (hexdumpJ data)]))) := by
  by_cases hb : isBuiltin T creator h.comp
  · by_cases h1 : h.sub = 1
    · exact Or.inl ⟨hb, Or.inl h1⟩
    · by_cases h3 : h.sub = 3
      · exact Or.inl ⟨hb, Or.inr h3⟩
      · refine Or.inr (Or.inr ⟨[], ?_⟩)
        rw [List.append_nil]
        exact builtin_other_subtype T env allow h creator data hb h1 h3
  · cases allow with
    | false =>
      refine Or.inr (Or.inr ⟨[], ?_⟩)
      rw [List.append_nil]
      exact fallback_disabled T env h creator data hb hne
    | true =>
      cases he : env (udModuleName creator h.comp) with
      | absent =>
        refine Or.inr (Or.inr ⟨[], ?_⟩)
        rw [List.append_nil]
        exact fallback_absent T env h creator data hb he
      | echo => exact Or.inr (Or.inl ⟨rfl, hb, Or.inl rfl⟩)
      | raises msg =>
        obtain ⟨note, e⟩ := fallback_raises T env h creator data msg hb hne he
        exact Or.inr (Or.inr ⟨[kv "Error" (jstr note)], by rw [e, List.append_assoc]; rfl⟩)
      | importRaises msg =>
        obtain ⟨note, e⟩ := fallback_import_raises T env h creator data msg hb hne he
        exact Or.inr (Or.inr ⟨[kv "Error" (jstr note)], by rw [e, List.append_assoc]; rfl⟩)
      | returnsNone =>
        obtain ⟨note, e⟩ := fallback_none T env h creator data hb hne he
        exact Or.inr (Or.inr ⟨[kv "Error" (jstr note)], by rw [e, List.append_assoc]; rfl⟩)
      | returnsText t => exact Or.inr (Or.inl ⟨rfl, hb, Or.inr ⟨t, rfl⟩⟩)

end Pel.C04
