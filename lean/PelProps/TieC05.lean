import PelGen.GenUserData
import PelProofs.TieUserData
import PelProps.C05
/-
  Source tie for C05 (the byte reader).  `PelGen/GenUserData.lean` is regenerated on every run by harness/trans_userdata.py from the
  CURRENT text of pel/datastream.py (`none` = the method left the translatable subset).

  The Python object keeps `data`, `size` and a cursor; the model's reader (PelModel/Reader.lean) keeps the bytes not consumed yet.
  So the tie is a refinement, stated with `DsM.abs` (a method seen as a reader over `DS.rest`) under the invariant `DS.Inv` that the
  generated `__init__` establishes: for EVERY Python integer `n` (negative byte counts included) and for BOTH interpreter modes
  (`opt = true`: `python -O`, `assert` statements do not exist), `get_mem(n)` / `get_int(n)` ARE `getMem n.toNat` / `getInt n.toNat`,
  error kinds included.  The explicit `raise AssertionError` checks are what makes this true for `opt = true`: written as `assert`
  statements they would be translated to `pyAssert opt …`, and the theorems below would be false for `opt = true`.
-/
namespace Pel.Tie

/-- generated method = the hand-written object-level method: `rfl` on the unchanged tree; the fall-back compares the two as functions
    of the object after unfolding the monad (harmless rewrites: a comparison written the other way round, temporaries, …) -/
macro "ds_tie " f:ident : tactic => `(tactic| first
  | rfl
  | (funext opt n; unfold $f; rfl)
  | (funext opt n d; unfold $f
     simp only [DS.checkRange, DS.incIndex, DS.getMem, bind, StateT.bind, Except.bind, pure, StateT.pure, Except.pure, DsM.fld, DsM.upd, DsM.raise,
       ne_eq, ite_not, Classical.not_not, Int.not_lt, Int.not_le, gt_iff_lt, ge_iff_le, decide_eq_true_eq, Bool.not_eq_true, decide_eq_false_iff_not,
       Bool.if_true_right, Bool.if_false_right, Bool.if_true_left, Bool.if_false_left, Bool.decide_eq_true, Bool.and_true, Bool.or_false]
     <;> (repeat' split) <;> simp_all <;> omega))

theorem dsInit (g) (h : Pel.Gen.dsInit? = some g) : g = DS.init := by
  cases h <;> first | rfl | (funext a b c; simp [DS.init])
/-- every `DataStream(...)` of pel/peltool constructs the stream big-endian and unsigned -/
theorem dsCtorArgs (g) (h : Pel.Gen.dsCtorArgs? = some g) : g = (some (s "big"), some false) := by
  cases h <;> rfl
theorem dsCheckRange_obj (g) (h : Pel.Gen.dsCheckRange? = some g) : g = DS.checkRange := by
  cases h <;> ds_tie DS.checkRange
theorem dsIncIndex_obj (g) (h : Pel.Gen.dsIncIndex? = some g) : g = DS.incIndex := by
  cases h <;> ds_tie DS.incIndex
theorem dsGetMem_obj (g) (h : Pel.Gen.dsGetMem? = some g) : g = DS.getMem := by
  cases h <;> ds_tie DS.getMem
theorem dsGetInt_obj (g) (h : Pel.Gen.dsGetInt? = some g) : g = DS.getInt := by
  cases h <;> ds_tie DS.getInt

/-- the stream `__init__` builds satisfies the invariant and has consumed nothing -/
theorem dsInit_inv (g) (h : Pel.Gen.dsInit? = some g) (data : Bytes) (bo : Option Text) (sg : Option Bool) :
    (g data bo sg).Inv ∧ (g data bo sg).rest = data ∧ (g data bo sg).byteOrder = bo ∧ (g data bo sg).isSigned = sg := by
  rw [dsInit g h]; exact ⟨DS.init_inv data bo sg, DS.init_rest data bo sg, rfl, rfl⟩

/-- `check_range(n)` regenerated from datastream.py: AssertionError for every `n ≤ 0` in both interpreter modes, else whether `n`
    bytes remain; consumes nothing -/
theorem dsCheckRange (g) (h : Pel.Gen.dsCheckRange? = some g) (opt : Bool) (n : Int) (d : DS) (hd : d.Inv) :
    g opt n d = if n.toNat = 0 then .error .assert else .ok (decide (n.toNat ≤ d.rest.length), d) := by
  rw [dsCheckRange_obj g h]; exact DS.checkRange_abs opt n d hd

/-- `inc_index(n)` regenerated from datastream.py = skipping what `getMem` returns -/
theorem dsIncIndex (g) (h : Pel.Gen.dsIncIndex? = some g) (opt : Bool) (n : Int) (d : DS) (hd : d.Inv) :
    (g opt n).abs d = (Pel.getMem n.toNat >>= fun _ => pure ()) d.rest ∧ (g opt n).Frame d := by
  rw [dsIncIndex_obj g h]; exact DS.incIndex_refines opt n d hd

/-- ★ `get_mem(n)` regenerated from datastream.py IS the model's `getMem` (same bytes, same rest, same error kind), for every integer
    byte count and in both interpreter modes -/
theorem dsGetMem (g) (h : Pel.Gen.dsGetMem? = some g) (opt : Bool) (n : Int) (d : DS) (hd : d.Inv) :
    (g opt n).abs d = Pel.getMem n.toNat d.rest ∧ (g opt n).Frame d := by
  rw [dsGetMem_obj g h]; exact DS.getMem_refines opt n d hd

/-- ★ `get_int(n)` regenerated from datastream.py, on a stream constructed the way the decoders construct it, IS the model's `getInt` -/
theorem dsGetInt (g) (h : Pel.Gen.dsGetInt? = some g) (opt : Bool) (n : Int) (d : DS) (hd : d.Inv)
    (hb : d.byteOrder = some (s "big")) (hs : d.isSigned = some false) :
    (g opt n).abs d = (Pel.getInt n.toNat >>= fun v => pure (v : Int)) d.rest ∧ (g opt n).Frame d := by
  rw [dsGetInt_obj g h]; exact DS.getInt_refines opt n d hd hb hs

/-- the whole chain from the source text: a stream constructed over `data` as pel/peltool constructs it, then one `get_int(n)` -/
theorem ds_first_read (gi ga gn) (hi : Pel.Gen.dsInit? = some gi) (ha : Pel.Gen.dsCtorArgs? = some ga) (hn : Pel.Gen.dsGetInt? = some gn)
    (opt : Bool) (n : Int) (data : Bytes) :
    (gn opt n).abs (gi data ga.1 ga.2) = (Pel.getInt n.toNat >>= fun v => pure (v : Int)) data := by
  cases dsCtorArgs ga ha
  obtain ⟨h1, h2, h3, h4⟩ := dsInit_inv gi hi data (some (s "big")) (some false)
  have := (dsGetInt gn hn opt n _ h1 h3 h4).1
  rw [h2] at this
  exact this

/-- ★ `C05.reads_in_bounds` for the method regenerated from datastream.py: a successful `get_mem(n)` returns exactly the next `n`
    bytes of what was not consumed and leaves exactly the rest; `n` was positive.  Holds under `python -O` as well. -/
theorem reads_in_bounds_src (g) (h : Pel.Gen.dsGetMem? = some g) (opt : Bool) (n : Int) (d d' : DS) (m : Bytes) (hd : d.Inv)
    (hr : g opt n d = .ok (m, d')) : d.rest = m ++ d'.rest ∧ (m.length : Int) = n ∧ 0 < n ∧ d'.Inv := by
  obtain ⟨ha, hf⟩ := dsGetMem g h opt n d hd
  have hinv := (hf m d' hr).1
  unfold DsM.abs at ha
  rw [hr] at ha
  obtain ⟨h1, h2, h3⟩ := C05.reads_in_bounds n.toNat d.rest m d'.rest ha.symm
  exact ⟨h1, by omega, by omega, hinv⟩

/-- `C05.read_past_end_fails` for the regenerated method: more bytes than remain are never returned (no short slice) -/
theorem read_past_end_fails_src (g) (h : Pel.Gen.dsGetMem? = some g) (opt : Bool) (n : Int) (d : DS) (hd : d.Inv)
    (hn : (d.rest.length : Int) < n) : ∃ e, g opt n d = .error e := by
  obtain ⟨ha, _⟩ := dsGetMem g h opt n d hd
  obtain ⟨e, he⟩ := C05.read_past_end_fails n.toNat d.rest (by omega)
  unfold DsM.abs at ha
  rw [he] at ha
  cases hg : g opt n d with
  | error e' => exact ⟨e', rfl⟩
  | ok p => rw [hg] at ha; cases ha

end Pel.Tie
