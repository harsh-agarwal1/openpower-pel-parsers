import PelGen.GenHexdump
import PelProofs.TieHexdump
import PelProps.C17
/-
  Source tie for C17 (stream `hexdump`): `parse_dump_data` (with `_format_ilog_data` / `_format_trace_data` inlined) and
  `parse_dump_file` of modules/io_drawer/dump.py and the constants they use, regenerated from the source text by
  harness/trans_hexdump.py (PelGen/GenHexdump.lean), are the model's `parseDumpData` / `parseDumpFile` (PelModel/Dump.lean) and the
  constants C17's theorems are about.  Equality of functions, no hypotheses: the header search, the slicing into the ILOG region and
  the trace regions, the order and the headings of the output, and the template auto-detection are all in the statement.
  (`none` on either side: a `%` format outside the model's subset inside the ILOG / trace decoders, see PelModel/Ilog.lean.)
-/
set_option linter.unusedSimpArgs false
namespace Pel.Tie
open Pel.TieHex

/-! ### the constants, from their assignments in the source text -/

theorem hexDumpLineFormats (g : List Text) (h : Gen.hexDumpLineFormats? = some g) : g = [fmtBmc, fmtPre] := by
  cases h <;> (rw [fmtBmc_lit, fmtPre_lit] <;> decide)

theorem traceBufferHeaderStart (g : Bytes) (h : Gen.traceBufferHeaderStart? = some g) : g = traceHeaderStart := by
  cases h <;> decide

theorem dividerLine (g : Text) (h : Gen.dividerLine? = some g) : g = Pel.dividerLine := by
  cases h <;> (refine Eq.trans ?_ dividerLine_eq.symm; decide)

theorem bufferNames (g : List Text) (h : Gen.bufferNames? = some g) : g = Pel.bufferNames := by
  cases h <;> (refine Eq.trans ?_ bufferNames_eq.symm; decide)

/-! ### `parse_dump_data` -/

theorem parseDumpData (g : Bytes → List PteEntry → List TraceString → Option (List Text)) (h : Gen.parseDumpData? = some g) :
    g = fun b tbl ss => Pel.parseDumpData tbl ss b := by
  cases h
  all_goals
    funext b tbl ss
    unfold Pel.parseDumpData
    by_cases he : b.isEmpty = true
    · have hb0 : b = [] := by simpa using he
      subst hb0
      simp
    · have hne : ¬ b = [] := by simpa using he
      have hl0 : ¬ b.length = 0 := fun e => hne (List.length_eq_zero_iff.mp e)
      have hl1 : 0 < b.length := by omega
      simp only [he, hne, hl0, hl1, beq_iff_eq, bne_iff_ne, ne_eq, not_true_eq_false, not_false_eq_true, decide_true, decide_false,
        gt_iff_lt, ge_iff_le, List.length_eq_zero_iff, Option.bind_eq_bind, Option.bind_some, Option.pure_def, bind, pure, if_false, Bool.false_eq_true, Bool.not_not,
        Bool.not_true, Bool.not_false]
      -- the header search: one `find` per buffer name, the hits kept in name order, then sorted
      rw [forIn_filterMap (fun nm => findSub (traceHeaderStart ++ nm) b 0) ?_ _ []]
      · have hoff : sortNat (List.filterMap (fun nm => findSub (traceHeaderStart ++ nm) b 0)
            [[73, 73, 67, 83], [73, 73, 67, 77], [80, 79, 87, 82], [70, 65, 78, 83], [73, 78, 70, 79], [69, 82, 82, 76]]) = bufferOffsets b := by
          unfold bufferOffsets; rw [bufferNames_eq]
        simp only [Option.bind_some, List.nil_append, hoff]
        generalize bufferOffsets b = offs
        cases offs with
        | nil =>
          -- no trace buffer: everything is ILOG data
          simp [Py.enumerate, Py.enumFrom, ilogRegion, Py.slice, traceRegions, optAll]
          cases parseIlog tbl b <;> simp [formatIlogSection, s_ILOG, dividerLine_eq]
        | cons o r =>
          simp only [List.isEmpty_cons, Bool.not_false, Bool.not_true, Bool.not_not, Bool.false_eq_true, if_true, if_false,
            List.getElem?_cons_zero, Option.bind_some, List.length_cons, Nat.succ_pos, decide_true, gt_iff_lt, Nat.zero_lt_succ,
            Nat.add_one_ne_zero, beq_iff_eq, bne_iff_ne, ne_eq, not_false_eq_true, not_true_eq_false, decide_false, reduceCtorEq,
            Option.bind_eq_bind, Option.pure_def, bind, pure]
          have hil : Py.slice b 0 o = ilogRegion b (o :: r) := by simp [Py.slice, ilogRegion]
          rw [hil]
          cases parseIlog tbl (ilogRegion b (o :: r)) with
          | none => simp
          | some il =>
            simp only [Option.bind_some]
            rw [Py.enumerate, forIn_regions (b := b) (ss := ss) (offs := o :: r) ?_ (o :: r) 0 _ (formatIlogSection il) rfl ?_]
            · intro i o' st L hio hk
              have hL : st.fst = L := by simpa using hk
              subst hL
              unfold regionEnd
              -- `end` is the next offset if there is one, else the length of the data
              by_cases hlt : i + 1 < r.length + 1
              · obtain ⟨e, he⟩ : ∃ e, (o :: r)[i + 1]? = some e := ⟨_, List.getElem?_eq_getElem (by simpa using hlt)⟩
                simp only [List.length_cons, hlt, he, decide_true, if_true, Option.bind_some, Option.getD_some, Option.bind_eq_bind,
                  Option.pure_def, bind, pure]
                exact ⟨_, rfl, fun t => by simp [formatTraceSection, s_Trace, dividerLine_eq]⟩
              · have he : (o :: r)[i + 1]? = none := List.getElem?_eq_none (by simpa using hlt)
                simp only [List.length_cons, hlt, he, decide_false, if_false, Option.getD_none, Bool.false_eq_true, Option.bind_some,
                  Option.bind_eq_bind, Option.pure_def, bind, pure]
                exact ⟨_, rfl, fun t => by simp [formatTraceSection, s_Trace, dividerLine_eq]⟩
            · simp [formatIlogSection, s_ILOG, dividerLine_eq]
      · intro nm acc
        simp only [traceHeaderStart_eq]
        generalize findSub _ b 0 = hit
        cases hit <;> rfl

/-! ### `parse_dump_file` -/

theorem parseDumpFile (g : List Text → List PteEntry → List TraceString → Option (List Text)) (h : Gen.parseDumpFile? = some g) :
    g = fun lines tbl ss => Pel.parseDumpFile tbl ss lines := by
  cases h
  all_goals
    funext lines tbl ss
    unfold Pel.parseDumpFile
    simp only [fmtBmc_lit, fmtPre_lit, List.forIn_cons, List.forIn_nil, Option.bind_eq_bind, Option.bind_some, Option.pure_def, bind, pure]
    generalize parseDump _ lines = d1
    generalize parseDump _ lines = d2
    cases d1 <;> cases d2 <;> simp <;> (try (cases Pel.parseDumpData tbl ss _ <;> simp))

/-! ### ★ theorems of C17 for the functions of the source text -/

/-- C17 ★`composition` for the `parse_dump_data` of the source text: the ILOG region and every trace region, each under its own
    heading, decoded as the stand-alone decoders decode those bytes -/
theorem composition (g : Bytes → List PteEntry → List TraceString → Option (List Text)) (h : Gen.parseDumpData? = some g)
    (tbl : List PteEntry) (ss : List TraceString) (b : Bytes) (hne : b ≠ []) :
    g b tbl ss =
      (match parseIlog tbl (ilogRegion b (bufferOffsets b)) with
       | none => none
       | some il => (optAll ((traceRegions b (bufferOffsets b)).map (parseTrace ss))).map fun ts =>
           ([s "ILOG", []] ++ il ++ [[], Pel.dividerLine, []]) ++
             (ts.map fun t => [s "Trace", []] ++ t ++ [[], Pel.dividerLine, []]).flatten) := by
  rw [parseDumpData g h]
  exact C17.composition tbl ss b hne

/-- C17 ★`file_equals_raw_bmc` for the two functions of the source text -/
theorem file_equals_raw_bmc (gf : List Text → List PteEntry → List TraceString → Option (List Text)) (hf : Gen.parseDumpFile? = some gf)
    (gd : Bytes → List PteEntry → List TraceString → Option (List Text)) (hd : Gen.parseDumpData? = some gd)
    (tbl : List PteEntry) (ss : List TraceString) (pad : Bool) (b : Bytes) (hb : ∀ x ∈ b, x < 256) (text : List Text)
    (htext : (text.map rstripNL).filter (fun t => !isNoise t) = renderBmc pad b) :
    gf text tbl ss = gd b tbl ss := by
  rw [parseDumpFile gf hf, parseDumpData gd hd]
  exact C17.file_equals_raw_bmc tbl ss pad b hb text htext

/-- the template walk that `parse_dump_file` relies on is the translated `parse` on both templates of the source text -/
theorem file_templates_paired (fs : List Text) (hfs : Gen.hexDumpLineFormats? = some fs) : ∀ f ∈ fs, pairedD f = true := by
  rw [hexDumpLineFormats fs hfs]
  intro f hf
  simp only [List.mem_cons, List.not_mem_nil, or_false] at hf
  -- (`rcases … with rfl` would evaluate the template to look for a constructor)
  rcases hf with h | h
  · exact h ▸ C13.templates_paired.2.1
  · exact h ▸ C13.templates_paired.2.2

end Pel.Tie
