import PelGen.GenDirModes
import PelProofs.TieDirModes
import PelProps.C08
/-
  Source tie for C08 (stream `dirmodes`, harness/trans_dirmodes.py → PelGen/GenDirModes.lean): `getFileList`, `printPELInHexFormat`,
  `extractAndSummarizePEL`, `listOption`, `extractAllPELsData` and `printPELCount` of peltool.py, regenerated from the source text as
  programs of the output monad `OutM` (PelModel/TransDirModes.lean: stdout text, number of diagnostics, exceptions caught per file,
  `sys.exit`), are the model's `getFileList`, `listMode`, `allMode` and `countMode` (PelModel/Cli.lean) for every environment,
  every `Config` and every directory.  The `Config` is the model's options plus the five id members (`DirCfg`); `DirCfg.opts` is the
  one conversion (the model's `lookup` = "some id member is a non-empty string", TieC07.considerPEL).

  How the proofs go, and why they do not depend on the shape of the generated term: head of PelProofs/TieDirModes.lean.
-/
set_option linter.unusedSimpArgs false
namespace Pel.Tie
open Pel.TieDM

theorem getFileList (g : Dir → Option Text → Bool → List FileEntry) (h : Gen.getFileList? = some g) : g = Pel.getFileList := by
  cases h
  all_goals (
    funext d ext rev
    rw [getFileList_extOk]
    simp only [OutM.value, outm, ↓reduceIte]
    rw [forEach_fold (step := gflStep ext)]
    · simp only [gflStep_fold, outm]
      simp
    · intro x st
      rcases ext with _ | _ | ⟨a, e⟩
      · simp only [tv, outm, gflStep, C08.extOk, ↓reduceIte]
      · simp only [tv, outm, gflStep, C08.extOk, ↓reduceIte]
      · simp only [tv, outm, gflStep, C08.extOk, ↓reduceIte, reduceCtorEq]
        by_cases hq : splitext x.name = a :: e <;> simp [hq, eq_comm (a := a :: e), loopView])

theorem listOption (g : Env → DirCfg → Dir → CliOut) (h : Gen.listOption? = some g) : g = fun env c d => listMode env c.opts d := by
  cases h
  all_goals (
    funext env c d
    rw [listMode_sumOut]
    simp only [OutM.run, outm, ↓reduceIte]
    rw [forEach_files (summaryOf env c.selCfg) (sumOn c.hex fun x => [x.1])]
    · simp only [sumOn_fold]
      cases hh : c.hex <;> simp [sumOut, summaryObj_eq, DirCfg.opts, hh]
    · intro f st
      simp only [fileStep, sumOn]
      rcases hsum : summaryOf env c.selCfg f with ⟨sm, plid, src⟩ | _ | _
      · obtain ⟨h1, -, -⟩ := summaryOf_facts hsum
        cases hh : c.hex <;> simp only [outm, ↓reduceIte, hsum, h1] <;>
          simp [dmout]
      · cases hh : c.hex <;> simp only [outm, ↓reduceIte, hsum]
      · cases hh : c.hex <;> simp only [outm, ↓reduceIte, hsum])

theorem extractAllPELsData (g : Env → DirCfg → Dir → CliOut) (h : Gen.extractAllPELsData? = some g) :
    g = fun env c d => allMode env c.opts d := by
  cases h
  all_goals (
    funext env c d
    rw [allMode_eq]
    cases hh : c.hex
    · simp only [OutM.run, outm, ↓reduceIte, hh]
      rw [forEach_files (fullOf env c.selCfg) (allOn fun x => prettyPrint 34 (dumps x.2))]
      · simp only [allOn_fold, outm, DirCfg.opts, hh, ← framing_eq]
        generalize (okList (fullOf env c.selCfg) (Pel.getFileList d c.ext c.rev)) = ok
        cases ok <;> simp [nl]
      · intro f st
        simp only [fileStep, allOn, fullOf]
        cases hp : parsePEL env c.selCfg f.data <;> cases hl : st.loc <;>
          simp only [outm, ↓reduceIte, hp, hl, prettyPrint_dumps_isEmpty] <;> simp [nl, hl]
    · simp only [OutM.run, outm, ↓reduceIte, hh]
      rw [forEach_files (fullOf env c.selCfg) hexOn]
      · simp only [hexOn_fold, outm, DirCfg.opts, hh]
        simp
      · intro f st
        simp only [fileStep, hexOn, fullOf]
        cases hp : parsePEL env c.selCfg f.data <;>
          simp only [outm, ↓reduceIte, hp, prettyPrint_dumps_isEmpty] <;>
          simp [dmout])

theorem printPELCount (g : Env → DirCfg → Dir → CliOut) (h : Gen.printPELCount? = some g) :
    g = fun env c d => countMode env c.opts d := by
  cases h
  all_goals (
    funext env c d
    simp only [OutM.run, outm, ↓reduceIte]
    rw [forEach_files (countOne env c.selCfg) countOn]
    · simp only [countOn_fold, length_okList, outm]
      simp [countMode, DirCfg.opts, s, nl]
    · intro f st
      simp only [fileStep, countOn, countOne, pyGeneratePH, pyGenerateUH, generatePHRd, generateUHRd]
      rcases h1 : parseHeader f.data with e | ⟨hd1, b1⟩
      · simp only [outm, ↓reduceIte, *]
      by_cases hid1 : ¬ hd1.id = sidPH
      · simp only [outm, ↓reduceIte, *]
      rcases h2 : decodePH env.T hd1 b1 with e | ⟨⟨phJ, ph⟩, b2⟩
      · simp only [outm, ↓reduceIte, *]
      rcases h3 : parseHeader b2 with e | ⟨hd2, b3⟩
      · simp only [outm, ↓reduceIte, *]
      by_cases hid2 : ¬ hd2.id = sidUH
      · simp only [outm, ↓reduceIte, *]
      rcases h4 : decodeUH env.T hd2 ph.creator b3 with e | ⟨⟨uhJ, uh⟩, b4⟩
      · simp only [outm, ↓reduceIte, *]
      cases hsel : considerPEL uh.severity uh.actionFlags c.selCfg <;> simp only [outm, ↓reduceIte, *])

/-- `printPELInHexFormat(data)`: begin marker, one line per dump line, end marker; never raises -/
theorem printPELInHexFormat (g : Bytes → OutM Unit (Ctl Unit)) (h : Gen.printPELInHexFormat? = some g) :
    ∀ data (st : PySt Unit), g data st = (.ok (.ret ()), hexOut data st) := by
  cases h
  all_goals (
    intro data st
    simp only [outm, ↓reduceIte]
    simp [dmout])

/-- `extractAndSummarizePEL(file, config)`: what the model's `summaryOf` says about the file decides what is returned, printed
    (with `-x` the dump is printed HERE and nothing is returned) and reported -/
theorem extractAndSummarizePEL (g : Env → DirCfg → FileEntry → OutM Unit (Ctl (Text × J))) (h : Gen.extractAndSummarizePEL? = some g) :
    ∀ env c f (st : PySt Unit), g env c f st =
      match summaryOf env c.selCfg f with
      | .some (sm, _, _) => if c.hex then (.ok (.ret ([], .str [])), hexOut f.data st) else (.ok (.ret (sm.eid, .obj sm.fields)), st)
      | .skip => (.ok (.ret ([], .str [])), st)
      | .diag => (.ok (.ret ([], .str [])), { st with errs := st.errs + 1 }) := by
  cases h
  all_goals (
    intro env c f st
    rcases hsum : summaryOf env c.selCfg f with ⟨sm, plid, src⟩ | _ | _
    · obtain ⟨h1, -, -⟩ := summaryOf_facts hsum
      cases hh : c.hex <;> simp only [outm, ↓reduceIte, hsum, h1, hh] <;>
        simp [dmout]
    · cases hh : c.hex <;> simp only [outm, ↓reduceIte, hsum, hh]
    · cases hh : c.hex <;> simp only [outm, ↓reduceIte, hsum, hh])

/-- `parsePELSummary(stream, config)` on a fresh stream over `b` hands back what the model's `parseSummary` says, and writes nothing -/
theorem parsePELSummary (g : Env → DirCfg → Bytes → PyRes (Text × J) × Text × Nat) (h : Gen.parsePELSummary? = some g) :
    ∀ env c b, NamesOk env.T → g env c b = (summaryResult (parseSummary env c.selCfg b), [], 0) := by
  cases h
  all_goals (
    intro env c b hn
    obtain ⟨n1, n2, n3⟩ := hn
    simp only [parseSummary, parseSummaryRd, OutM.result, generatePHRdJ, generateUHRdJ, pykeys]
    rcases h1 : parseHeader b with e | ⟨hd1, b1⟩
    · simp only [outm, ↓reduceIte, summaryResult, *]
    by_cases hid1 : ¬ hd1.id = sidPH
    · simp only [outm, ↓reduceIte, summaryResult, *]
    rcases h2 : decodePH env.T hd1 b1 with e | ⟨⟨phJ, ph⟩, b2⟩
    · simp only [outm, ↓reduceIte, summaryResult, *]
    rcases h3 : parseHeader b2 with e | ⟨hd2, b3⟩
    · simp only [outm, ↓reduceIte, summaryResult, *]
    by_cases hid2 : ¬ hd2.id = sidUH
    · simp only [outm, ↓reduceIte, summaryResult, *]
    rcases h4 : decodeUH env.T hd2 ph.creator b3 with e | ⟨⟨uhJ, uh⟩, b4⟩
    · simp only [outm, ↓reduceIte, summaryResult, *]
    cases hsel : considerPEL uh.severity uh.actionFlags c.selCfg
    · simp only [outm, ↓reduceIte, summaryResult, *]
    obtain ⟨⟨v1, lph, rfl, hv1⟩, v2, _, e2, hv2⟩ := decodePH_facts env.T hd1 _ _ _ h2
    obtain ⟨⟨v3, luh, rfl, hv3⟩, v4, _, e4, hv4⟩ := decodeUH_facts env.T hd2 ph.creator _ _ _ h4
    cases e2
    cases e4
    simp only [outm, ↓reduceIte, h1, hid1, h2, h3, hid2, h4, hsel, n1, n2, objSet, objGet?, s_eq_iff, String.reduceEq, hv1, hv2, hv3, hv4]
    generalize hr : forEach (List.range' 2 (ph.sectionCount - 2)) _ _ = r
    have hrel : StepRel r (psLoop env ph.creator (ph.sectionCount - 2) { loc := (b4, []), out := [], errs := 0 }) := by
      rw [← hr]
      apply sum_loop
      intro i st
      rcases g1 : parseHeader st.loc.1 with e | ⟨hd, c1⟩
      · simp only [psStep, secStep, outm, ↓reduceIte, g1, StepRel, and_self]
      rcases g2 : decodeSection env ph.creator hd c1 with e | ⟨⟨j, rc⟩, c2⟩
      · simp only [psStep, secStep, outm, ↓reduceIte, g1, g2, StepRel, and_self]
      by_cases hid : hd.id = sidPS
      · obtain ⟨r', rfl, l, rfl, e3⟩ := decodeSection_ps env ph.creator hd hid _ _ _ g2
        -- the translator writes the id of the source's `"PS"` test as a number: 20563 = 0x5053 = `sidPS`
        have hb : (hd.id == 20563) = true := by rw [hid]; rfl
        have hnm : sectionName env.T hd.id = s "Primary SRC" := by rw [hid, n3]
        have hid' := eq_true hid
        rcases hED : objGet? l (s "Error Details") with _ | ed
        · simp only [psStep, secStep, outm, ↓reduceIte, g1, g2, hid', hb, hnm, objGet?, e3, hED, summaryMessage, Option.isSome, Option.bind, addSM, StepRel]
        · cases hM : jItem (s "Message") ed <;>
            simp only [psStep, secStep, outm, ↓reduceIte, g1, g2, hid', hb, hnm, objGet?, e3, hED, hM, summaryMessage, Option.isSome, Option.bind, Rd.fail, addSM,
              StepRel, and_self]
      · have hb : (hd.id == 20563) = false := beq_eq_false_iff_ne.2 hid
        simp only [psStep, secStep, outm, ↓reduceIte, g1, g2, hid, hb, StepRel]
    clear hr
    simp only [psLoop] at hrel
    rcases h5 : summarySections env ph.creator (ph.sectionCount - 2) b4 with e | ⟨⟨rc, msg⟩, b5⟩
    · simp only [h5, StepRel] at hrel
      obtain ⟨r1, r2⟩ := r
      obtain ⟨e1, e2, e3⟩ := hrel
      simp only at e1 e2 e3
      subst e1
      simp only [summaryResult, e2, e3]
    · simp only [h5, StepRel] at hrel
      subst hrel
      cases rc <;> cases msg <;>
        simp [objSet, addSM, summaryResult, kv, jstr, s_eq_iff])

/-- the primitive `pyParsePELSummary` that the translated modes call (PelModel/TransDirModes.lean) IS the translated
    `parsePELSummary`, run on a fresh stream over the file's bytes: its value, or its exception -/
theorem parsePELSummary_is_primitive (g : Env → DirCfg → Bytes → PyRes (Text × J) × Text × Nat) (h : Gen.parsePELSummary? = some g)
    {σ : Type} (env : Env) (c : DirCfg) (b : Bytes) (hn : NamesOk env.T) (st : PySt σ) :
    (pyParsePELSummary env c b : OutM σ (Text × J)) st = ((g env c b).1, st) := by
  rw [parsePELSummary g h env c b hn]
  unfold pyParsePELSummary summaryResult
  cases parseSummary env c.selCfg b <;> rfl

/-! ### the ★ theorems of C08, read with the functions of the source text -/

/-- C08 `file_list` for the translated `getFileList` -/
theorem file_list (g : Dir → Option Text → Bool → List FileEntry) (h : Gen.getFileList? = some g)
    (o : CliOpts) (rev : Bool) (files : C08.AFiles) :
    g (C08.dirOf files) o.ext rev = C08.dirOf (C08.presented o rev files) := by
  rw [getFileList g h]; exact C08.file_list o rev files

/-- C08 ★`count_eq` for the translated `printPELCount` -/
theorem count_eq (g : Env → DirCfg → Dir → CliOut) (h : Gen.printPELCount? = some g)
    (env : Env) (c : DirCfg) (files : C08.AFiles) (hg : C08.GoodDir env files) :
    (g env c (C08.dirOf files)).stdout =
      s "{\n    \"Number of PELs found\": " ++ natDec (C08.selectedIn c.opts false files).length ++ s "\n}\n" := by
  rw [printPELCount g h]; exact C08.count_eq env c.opts files hg

/-- C08 ★`list_eq` for the translated `listOption` -/
theorem list_eq (g : Env → DirCfg → Dir → CliOut) (h : Gen.listOption? = some g)
    (env : Env) (c : DirCfg) (files : C08.AFiles) (hg : C08.GoodDir env files) (hnohex : c.hex = false) :
    (g env c (C08.dirOf files)).stdout =
      prettyPrint 29 (dumps (.obj ((C08.selectedIn c.opts c.rev files).map fun np =>
        (ox (fmtHex 2 np.2.ph.eid), J.obj (C08.specSummary env np.2))))) ++ nl := by
  rw [listOption g h]; exact C08.list_eq env c.opts files hg hnohex

/-- C08 ★`all_eq` for the translated `extractAllPELsData` -/
theorem all_eq (g : Env → DirCfg → Dir → CliOut) (h : Gen.extractAllPELsData? = some g)
    (env : Env) (c : DirCfg) (files : C08.AFiles) (hg : C08.GoodDir env files) (hnohex : c.hex = false) :
    (g env c (C08.dirOf files)).stdout =
      listFraming ((C08.selectedIn c.opts c.rev files).map fun np => prettyPrint 34 (dumps (C08.renderD env np.2))) := by
  rw [extractAllPELsData g h]; exact C08.all_eq env c.opts files hg hnohex

/-- C08 ★`summary_fields` for the translated `parsePELSummary`: on the encoding of a well-formed, displayable, selected PEL it
    returns the entry id and exactly the members `specSummary` lists (with `Message` when the registry supplies one) -/
theorem summary_fields (g : Env → DirCfg → Bytes → PyRes (Text × J) × Text × Nat) (h : Gen.parsePELSummary? = some g)
    (env : Env) (c : DirCfg) (hn : NamesOk env.T) (p : APel) (hp : p.WF) (hr : ∃ d, render env p = .ok d)
    (hsel : considerPEL p.uh.sev p.uh.af c.selCfg = true) :
    g env c p.enc = (.ok (ox (fmtHex 2 p.ph.eid), .obj (C08.specSummary env p)), [], 0) := by
  rw [parsePELSummary g h env c p.enc hn, C08.summary_fields env c.selCfg p hp hr hsel]
  rfl

end Pel.Tie
