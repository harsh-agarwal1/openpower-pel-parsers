import PelModel.Cli
import PelProofs.Cli
import PelProps.C07
import PelProofs.Top
/-
  C10 — Look-ups by platform log id, BMC id, entry id and SRC return exactly the matches.
-/
namespace Pel.C10

/-- ★ every spelling of a 32-bit id (eight hex digits in either case, with or without 0x / 0X) is normalised to the
    eight upper-case digits of that id -/
theorem processId_spellings (v : Nat) (hv : v < 2 ^ 32) :
    processId (hexFix 8 v) = some (hexFix 8 v) ∧ processId (hexFixL 8 v) = some (hexFix 8 v) ∧
    processId (s "0x" ++ hexFix 8 v) = some (hexFix 8 v) ∧ processId (s "0x" ++ hexFixL 8 v) = some (hexFix 8 v) ∧
    processId (s "0X" ++ hexFix 8 v) = some (hexFix 8 v) ∧ processId (s "0X" ++ hexFixL 8 v) = some (hexFix 8 v) := by
  have hl : (hexFix 8 v).length = 8 := hexFix_length 8 v
  have hnp : (s "0X").isPrefixOf (hexFix 8 v) = false := hexFix_no_0X 6 v
  refine ⟨?_, ?_, ?_, ?_, ?_, ?_⟩
  · exact processId_plain _ _ (map_upper_hexFix 8 v) hnp hl
  · exact processId_plain _ _ (map_upper_hexFixL 8 v) hnp hl
  · exact processId_0X _ _ (by rw [List.map_append, map_upper_0x, map_upper_hexFix]) hl
  · exact processId_0X _ _ (by rw [List.map_append, map_upper_0x, map_upper_hexFixL]) hl
  · exact processId_0X _ _ (by rw [List.map_append, map_upper_0X, map_upper_hexFix]) hl
  · exact processId_0X _ _ (by rw [List.map_append, map_upper_0X, map_upper_hexFixL]) hl

/-- ★ the comparison made by `--plid` is equality of the 32-bit ids (also for values below 0x10000000) -/
theorem plid_match_exact (v w : Nat) (hv : v < 2 ^ 32) (hw : w < 2 ^ 32) : (hexFix 8 v = fmtHex 8 w) ↔ v = w := by
  have e : (2 : Nat) ^ 32 = 16 ^ 8 := by decide
  rw [e] at hv hw
  rw [fmtHex_eq_hexFix 8 w hw (by decide)]
  exact ⟨hexFix_injective 8 v w hv hw, fun h => by rw [h]⟩

/-- the summaries selected by `--plid`: exactly the decodable files whose platform log id is `v`, in list order -/
def plidMatches (env : Env) (o : CliOpts) (v : Nat) (d : Dir) : List Summary :=
  (getFileList d o.ext o.rev).filterMap fun f =>
    match parseSummary env { o.cfg with lookup := true } f.data with
    | .summary sm plid _ => if plid = v then some sm else none
    | _ => none

/-- ★ `--plid X` lists exactly the PELs whose platform log id equals X -/
theorem plid_exact (env : Env) (o : CliOpts) (v : Nat) (hv : v < 2 ^ 32) (d : Dir) (x : Text)
    (hx : processId x = some (hexFix 8 v)) (hnohex : o.hex = false)
    (hplids : ∀ f ∈ d, ∀ sm plid src, parseSummary env { o.cfg with lookup := true } f.data = .summary sm plid src → plid < 2 ^ 32) :
    (plidMode env o x d).stdout = prettyPrint 29 (dumps (summaryObj (plidMatches env o v d))) ++ nl ∧
    (plidMode env o x d).exit = 0 := by
  have hpl : ∀ f ∈ getFileList d o.ext o.rev, ∀ sm plid src,
      parseSummary env { o.cfg with lookup := true } f.data = .summary sm plid src → plid < 2 ^ 32 :=
    fun f hf => hplids f ((mem_getFileList d o.ext o.rev f).1 hf).1
  simp only [plidMode, hx, hnohex, Bool.false_eq_true, if_false]
  refine ⟨?_, trivial⟩
  unfold plidMatches
  congr 4
  generalize getFileList d o.ext o.rev = files at hpl ⊢
  induction files with
  | nil => rfl
  | cons f fs ih =>
    simp only [List.map_cons, List.filterMap_cons, ← ih (fun g hg => hpl g (List.mem_cons_of_mem _ hg))]
    unfold summaryOf
    cases hps : parseSummary env { o.cfg with lookup := true } f.data with
    | summary sm plid src =>
      -- the texts are equal exactly when the ids are
      have hiff := plid_match_exact v plid hv (hpl f List.mem_cons_self sm plid src hps)
      by_cases hvp : plid = v
      · simp only [hiff.2 hvp.symm, hvp, if_true, List.map_cons]
      · simp only [mt hiff.1 (Ne.symm hvp), hvp, if_false]
    | _ => rfl

/-- ★ hidden and non-serviceable PELs are found by the look-ups without extra options: with no selection option the
    look-up configuration selects every PEL -/
theorem lookups_consider_all (sev af : Nat) : considerPEL sev af { ({} : SelCfg) with lookup := true } = true :=
  Pel.C07.lookup_considers_all sev af

/-- ★ `--id E`: a PEL is displayed only from a file whose name contains the processed id; none ⇒ "PEL not found" -/
theorem id_lookup (env : Env) (o : CliOpts) (e pid : Text) (d : Dir) (hp : processId e = some pid) :
    (∀ f ∈ d, isInfix pid f.name = false) → (idMode env o e d).stdout = s "PEL not found\n" := by
  intro h
  have hf : d.find? (fun f => isInfix pid f.name) = none := List.find?_eq_none.2 fun f hfd => by simp [h f hfd]
  simp only [idMode, hp, hf]

theorem id_lookup_found (env : Env) (o : CliOpts) (e pid : Text) (d : Dir) (hp : processId e = some pid) (f : FileEntry)
    (hf : d.find? (fun f => isInfix pid f.name) = some f) :
    (idMode env o e d).stdout = (printOne env o { o.cfg with lookup := true } f).1 := by
  simp only [idMode, hp, hf]

/-- ★ `--bmc-id N`: when no file has that BMC event log id the answer is "PEL not found" -/
theorem bmcid_not_found (env : Env) (o : CliOpts) (n : Text) (d : Dir)
    (h : ∀ f ∈ d, ∀ j ph rest, (do let h1 ← parseHeader; decodePH env.T h1) f.data = .ok ((j, ph), rest) → natDec ph.obmcLogID ≠ n) :
    (bmcIdMode env o n d).stdout = s "PEL not found\n" := by
  unfold bmcIdMode
  generalize 0 = errs
  induction d generalizing errs with
  | nil => rfl
  | cons f fs ih =>
    have ih' := ih fun g hg => h g (List.mem_cons_of_mem _ hg)
    simp only [bmcIdGo]
    split
    · rename_i id rest heq
      obtain ⟨j, ph, hr, hid⟩ := bmcReader_ok env f.data id rest heq
      have hne : natDec id ≠ n := by rw [← hid]; exact h f (by simp) j ph rest hr
      rw [if_neg hne]
      exact ih' _
    · exact ih' _

/-- decimal ids identify: two BMC ids with the same decimal text are equal -/
theorem bmcid_text_injective (a b : Nat) (h : natDec a = natDec b) : a = b :=
  natDec_injective a b h

/-- the summaries selected by `--src S` -/
def srcMatches (env : Env) (o : CliOpts) (needle : Text) (d : Dir) : List Summary :=
  (getFileList d o.ext o.rev).filterMap fun f =>
    match parseSummary env { o.cfg with lookup := true } f.data with
    | .summary sm _ (some rc) => if isInfix needle rc then some sm else none
    | _ => none

/-- ★ `--src S` lists exactly the PELs whose reference code contains S -/
theorem src_exact (env : Env) (o : CliOpts) (needle : Text) (d : Dir) (hn : needle ≠ []) (hl : needle.length ≤ 32)
    (hnohex : o.hex = false) :
    (srcMode env o (some needle) none d).stdout = prettyPrint 29 (dumps (summaryObj (srcMatches env o needle d))) ++ nl := by
  unfold srcMatches
  have hl' : ¬ (needle.length > 32) := by omega
  simp only [srcMode, hl', decide_false, Bool.false_eq_true, if_false, hnohex, hn, ne_eq, not_false_eq_true, true_and,
    List.append_nil]
  congr 4
  generalize getFileList d o.ext o.rev = files
  induction files with
  | nil => rfl
  | cons f fs ih =>
    simp only [List.map_cons, List.filterMap_cons, ← ih]
    unfold summaryOf
    cases parseSummary env { o.cfg with lookup := true } f.data with
    | summary sm plid src =>
      cases src with
      | none => rfl
      | some rc => by_cases hi : isInfix needle rc = true <;> simp [hi]
    | _ => rfl

/-- `isInfix` is "occurs as a contiguous substring" -/
theorem isInfix_iff (needle hay : Text) : isInfix needle hay = true ↔ ∃ a b, hay = a ++ needle ++ b := by
  induction hay with
  | nil =>
    simp only [isInfix, List.isEmpty_iff]
    constructor
    · intro h; subst h; exact ⟨[], [], rfl⟩
    · rintro ⟨a, b, h⟩
      have := congrArg List.length h
      simp only [List.length_nil, List.length_append] at this
      exact List.eq_nil_of_length_eq_zero (by omega)
  | cons x t ih =>
    simp only [isInfix, Bool.or_eq_true, ih, List.isPrefixOf_iff_prefix]
    constructor
    · rintro (⟨b, hb⟩ | ⟨a, b, hab⟩)
      · exact ⟨[], b, by simpa using hb.symm⟩
      · exact ⟨x :: a, b, by rw [hab]; rfl⟩
    · rintro ⟨a, b, hab⟩
      cases a with
      | nil => exact Or.inl ⟨b, by simpa using hab.symm⟩
      | cons y a =>
        simp only [List.cons_append, List.cons.injEq] at hab
        exact Or.inr ⟨a, b, hab.2⟩

/-! ### the WHOLE command: `runMain` = `dispatch` followed by the mode it names, on a `World` (model: PelModel/Top.lean) -/

/-- ★ a command line that reaches one of the five look-ups (`--id`, `--bmc-id`, `--plid`, `--src`, `--src-exclude`) WITHOUT any selection
    option considers hidden and non-serviceable PELs: the selection the look-up function receives is "look-up id stored, nothing else",
    under which `considerPEL` accepts every severity / action-flag word (`lookups_consider_all` through `main_lookup_flag`), and therefore the
    WHOLE command — stdout, diagnostics, exit status, world — is the same as with `-E` added, in every world and under every fault plan -/
theorem command_lookup_ignores_class (fault : Nat → Bool) (env : Env) (a : Args) (w : World)
    (hs : a.NoSelection) (hl : (dispatch (w.fsView a) a).1.isLookup = true) :
    (dispatch (w.fsView a) a).2.sel = { lookup := true } ∧
    (∀ sev af, considerPEL sev af (dispatch (w.fsView a) a).2.sel = true) ∧
    runMainF fault env { a with every := true } w = runMainF fault env a w := by
  have hlk : (dispatch (w.fsView a) a).2.sel.lookup = true := (Pel.C07.main_lookup_flag (w.fsView a) a).1.mpr (Or.inl hl)
  have hsel : (dispatch (w.fsView a) a).2.sel = { lookup := true } := by
    rw [(Pel.C07.main_lookup_flag (w.fsView a) a).2, hlk, Pel.C07.main_default_config _ a hs]
  refine ⟨hsel, fun sev af => by rw [hsel]; exact lookups_consider_all sev af, ?_⟩
  unfold runMainF
  have hfs : w.fsView { a with every := true } = w.fsView a := rfl
  simp only [hfs, dispatch_every]
  refine runAction_lookup_congr fault _ w _ _ _ hl rfl rfl rfl (fun sev af => ?_)
  simp only [hsel]
  rw [Pel.C07.every_selects_all sev af _ rfl]
  exact (lookups_consider_all sev af).symm

/-- the look-up is reached, e.g., by `--plid X` (non-empty) on a `-p` directory with none of `-f -j -i --bmc-id` given -/
theorem plid_reached (a : Args) (w : World) (p x : Text) (hf : tv a.file = none) (hp : tv a.path = some p) (hd : w.pathIsDir = true)
    (hj : a.json = false) (hi : tv a.pelID = none) (hb : tv a.bmcID = none) (hx : tv a.plid = some x) :
    (dispatch (w.fsView a) a).1 = .plidMode p x :=
  congrArg Prod.fst (dispatch_of_chain (.plid hf hp ((fsView_isDir_path hp).trans hd) hj hi hb hx))

/-! Non-vacuity: `-p /pels --plid 50000001` and `-p /pels --src-exclude /ex.txt` reach a look-up in `wDemo` and carry no selection option. -/
example : (dispatch (wDemo.fsView { path := some (s "/pels"), plid := some (s "50000001") })
      { path := some (s "/pels"), plid := some (s "50000001") }).1.isLookup = true ∧
    ({ path := some (s "/pels"), plid := some (s "50000001") } : Args).NoSelection := ⟨by decide +kernel, ⟨rfl, rfl, rfl, rfl, rfl, rfl, rfl⟩⟩
example : (dispatch (wDemo.fsView { path := some (s "/pels"), srcExclude := some (s "/ex.txt"), deleteAll := true })
      { path := some (s "/pels"), srcExclude := some (s "/ex.txt"), deleteAll := true }).1 = .srcExcludeMode (s "/pels") (s "/ex.txt") := by decide +kernel
example : (runMain envDemo { path := some (s "/pels"), plid := some (s "5000") } wDemo).exit = 1 ∧
    (runMain envDemo { path := some (s "/pels"), pelID := some (s "0x5EED0000") } wDemo).stdout = s "PEL not found\n" := by decide +kernel

-- with real PELs (`wPels`): `--plid 50000001` and `--id 50000002` find the HIDDEN PEL (platform log id 0x50000001, entry id 0x50000002)
-- although the plain `-l` does not show it
example : (runMain envDemo { path := some (s "/pels"), plid := some (s "0x50000001"), hex := true } wPels).stdout =
      linesOut (pelHexDisplay pelDemo) ++ linesOut (pelHexDisplay pelHiddenDemo) ∧
    (runMain envDemo { path := some (s "/pels"), pelID := some (s "50000002"), hex := true } wPels).stdout = linesOut (pelHexDisplay pelHiddenDemo) ∧
    (runMain envDemo { path := some (s "/pels"), list := true, hex := true } wPels).stdout = linesOut (pelHexDisplay pelDemo) := by
  decide +kernel

end Pel.C10
