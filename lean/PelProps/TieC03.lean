import PelGen.GenSrc
import PelGen.GenRegistry
import PelProofs.TieSrc
import PelProps.C03
/-
  Source tie for C03 (SRC section).  `PelGen/GenSrc.lean` is regenerated on every run by harness/trans_src.py from the CURRENT
  text of modules/pel/peltool/src.py (`none` = the function left the translatable subset).  Each theorem: whatever was generated
  IS the model function of PelModel/Src.lean that the C03 theorems are about (full extensional equality, for all inputs).
  Loops of the source are rendered with the combinators of PelModel/TransSrc.lean; PelProofs/TieSrc.lean relates them to the
  model's recursive functions.  Call sites of functions that are not translated (`getErrorDetails`, `parse`,
  `getProcedureDesc`) appear as `errDetailsCall` / `srcDetails` / `procDescCall` with the arguments the source passes.
-/
set_option linter.unusedSimpArgs false
namespace Pel.Tie
open Pel.TieAux Pel.TieSrc

/-- `FRUIdentity.__init__` -/
theorem readFru (g) (h : Pel.Gen.readFru? = some g) : g = Pel.readFru := by
  cases h <;> tie_src Pel.readFru
/-- `PCEIdentity.__init__` -/
theorem readPce (g) (h : Pel.Gen.readPce? = some g) : g = Pel.readPce := by
  cases h <;> tie_src Pel.readPce
/-- `MRU.__init__` (+ `MRUCallout.__init__`) -/
theorem readMru (g) (h : Pel.Gen.readMru? = some g) : g = Pel.readMru := by
  cases h <;> tie_src Pel.readMru
/-- `Callout.__init__` -/
theorem readCallout (g) (h : Pel.Gen.readCallout? = some g) : g = Pel.readCallout := by
  cases h <;> tie_src Pel.readCallout
/-- `Callout.flattenedSize` -/
theorem calloutFlattenedSize (g) (h : Pel.Gen.calloutFlattenedSize? = some g) : g = Pel.Callout.flattenedSize := by
  cases h <;>
  (funext c
   unfold Pel.Callout.flattenedSize
   first
     | rfl
     | (obtain ⟨size, flags, prio, locSize, loc, fru, pce, mru⟩ := c
        cases fru <;> cases pce <;> cases mru <;> first | rfl | (simp only [Option.map, Option.getD]; omega)))
/-- the body of the loop `for callout in callouts` of `SRC.getCallouts` -/
theorem calloutJson (g) (h : Pel.Gen.calloutJson? = some g) : g = Pel.calloutJson := by
  cases h <;>
  (funext T env creator allow c
   obtain ⟨size, flags, prio, locSize, loc, fru, pce, mru⟩ := c
   unfold Pel.calloutJson Pel.calloutJson.objFromList dictOf
   -- 44 = `,`, the separator of `",".join`
   simp only [foldl_join _ (s ",") 44 (s_ofList _), procDesc_if, ne_eq, ne_zero_iff_pos, one_le_iff, ge_one_iff, zero_eq_iff, List.length_eq_zero_iff]
   cases fru <;> cases mru <;> rcases pce with _ | ⟨ds, mtm, sn, _ | nm⟩ <;> rfl)
/-- `SRC.getCallouts` (what it stores in the dictionary it is given) -/
theorem decodeCallouts (g) (h : Pel.Gen.decodeCallouts? = some g) : g = Pel.decodeCallouts := by
  cases h <;> (funext T env creator allow; tie_src Pel.decodeCallouts)
/-- `SRC.__init__` + `SRC.toJSON` -/
theorem decodeSRC (g) (h : Pel.Gen.decodeSRC? = some g) : g = Pel.decodeSRC := by
  cases h <;>
  (funext T env hd creator allow
   rw [decodeSRC_eq]
   refine bind_congr fun v1 => bind_congr fun v2 => bind_congr fun _ => bind_congr fun v4 => bind_congr fun _ => bind_congr fun _ => ?_
   refine getInts_bind_congr 4 8 _ _ fun v7 hw => ?_
   refine bind_congr fun v9 => ?_
   first
     | exact srcTail_shape T env hd creator allow v1 v2 v4 v7 v9 hw
     | (refine Eq.trans ?_ (srcTail_shape T env hd creator allow v1 v2 v4 v7 v9 hw)
        simp only [ne_eq, ne_zero_iff_pos, one_le_iff, ge_one_iff, zero_eq_iff, Nat.and_comm, or_comm, bind_assoc, pure_bind]
        done))

/-! The ★ theorems of `PelProps/C03.lean`, transported to whatever the translator produced from the current source text -/

/-- ★ `C03.src_roundtrip` for the function regenerated from src.py -/
theorem src_roundtrip_src (g) (hg : Pel.Gen.decodeSRC? = some g) (T : Tables) (env : SrcEnv) (h : AHdr) (creator : Text) (allow : Bool)
    (x : ASrc) (hx : x.WF) (id len : Nat) (hd : srcDisplayable env creator allow x = true) (rest : Bytes) :
    g T env (mkSecHdr id len h) creator allow (x.encBody ++ rest) =
      .ok ((renderSrc T env h creator allow x, stripSp x.ascii), rest) := by
  rw [decodeSRC g hg]; exact C03.src_roundtrip T env h creator allow x hx id len hd rest

/-- `Registry.getErrorMessage` (modules/pel/peltool/registry.py, regenerated by harness/trans_registry.py): the first entry, in list order,
    that has a reason code containing the code and whose type (default "BD") is the SRC's; what is handed on is that entry's message,
    argument sources and word descriptions.  `regHit` is `regLookup` (the look-up of the C03 theorems) followed by that projection. -/
theorem registryGetErrorMessage (g) (h : Pel.Gen.registryGetErrorMessage? = some g) : g = Pel.regHit := by
  cases h <;>
  (funext reg code ty
   unfold Pel.firstHit Pel.regHit Pel.regLookup
   have hk : ∀ (k : RegEntry → Bool), (∀ e, k e = e.isMatch code ty) → reg.find? k = reg.find? (fun e => e.isMatch code ty) := by
     intro k hk; congr 1; funext e; exact hk e
   have hc : ∀ (c : RegEntry → RegHit), (∀ e, c e = { message := e.message, argSources := e.argSources, words := e.words }) →
       ∀ o : Option RegEntry, o.map c = o.map (fun e => { message := e.message, argSources := e.argSources, words := e.words }) := by
     intro c hc o; congr 1; funext e; exact hc e
   rw [hk _ (by
     intro e
     obtain ⟨rc, t, m, a, w⟩ := e
     have hBD : s "BD" = [66, 68] := rfl
     cases rc <;> cases t <;>
       first
         | rfl
         | (simp [RegEntry.isMatch, hBD]; done)
         | (rw [Bool.eq_iff_iff]; simp [RegEntry.isMatch, hBD]; grind)
         | grind [RegEntry.isMatch])]
   exact hc _ (by
     intro e
     obtain ⟨rc, t, m, a, w⟩ := e
     cases a <;> cases w <;> simp [RegEntry.wordsTruthy]) _)

/-- the look-up the C03 theorems speak about is recovered from what the source returns: an entry is found exactly when the source
    returns a non-empty dictionary.  Which entry: `regHit` is by definition the three members of `regLookup`'s entry. -/
theorem regHit_isSome (reg : List RegEntry) (code ty : Text) : (Pel.regHit reg code ty).isSome = (Pel.regLookup reg code ty).isSome := by
  unfold Pel.regHit; cases Pel.regLookup reg code ty <;> rfl

end Pel.Tie
