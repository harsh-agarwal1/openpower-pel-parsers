import PelGen.GenUserData
import PelProofs.TieUserData
import PelProps.C04
set_option linter.unusedSimpArgs false
/-
  Source tie for C04 (user-data sections).  `PelGen/GenUserData.lean` is regenerated on every run by harness/trans_userdata.py from the
  CURRENT text of user_data.py, ext_user_data.py and parse_user_data.py (`none` = the function left the translatable subset).

  * `udDecodeUD` / `udDecodeED`: the section decoders (`__init__` + `toJSON`) regenerated from the source ARE `decodeUD` / `decodeED`
    (which bytes are the payload, the creator byte of an ED section, `json.loads` with the dump of the text as fall-back, the merge into
    the three header members).  They call `parseUserData` by name; that name map is what the next theorems justify.
  * `udBuiltin`: `getBuiltinFormatJSON` regenerated from the source IS `builtinFormat` (sub-type constants, strip rules, the character loop).
  * `udParseCustom`, `udParse`: `parseCustom` / `parse` regenerated from the source, run in the exception-and-state monad with the module
    table keyed by full module names, give exactly `parseUserData` of the model for the behaviours that `udLookup` (PelModel/Plugins.lean,
    the model's rule for `userDataParsers`) hands on, and leave exactly the table `udLookup` says.  Hypotheses (both hold wherever the
    code can be reached): the payload is not empty (`get_mem(0)` raises; for an empty payload `parseCustom` returns `json.dumps("")`, which
    the model does not describe) and a module object in the table is a module (`CacheModulesOk`: contained in what `C19.cache_contents`
    proves of every reachable table, but derived from it nowhere; discharged for the empty table only).  `udParse_fresh` is the
    statement for a fresh process: the `UdEnv` itself.
-/
namespace Pel.Tie

/-- after the reads both sides continue with the same `parseUserData` value: compare per kind of value -/
macro "ud_tail" : tactic => `(tactic| (
  repeat (refine bind_congr (fun _ => ?_))
  try dsimp only
  generalize parseUserData _ _ _ _ _ _ _ _ = v
  cases v with
  | fail e => rfl
  | json j => cases j <;> rfl
  | text t =>
    simp only [udRaise, PyStr.loadsOr, udToJson, pure_bind]
    cases loads t with
    | ok j => cases j <;> first | rfl | simp [hexdumpJ, hexdump16]
    | bad => first | rfl | simp [hexdumpJ, hexdump16]
    | unsupported => rfl))

theorem udDecodeUD (g) (h : Pel.Gen.decodeUD? = some g) : g = Pel.decodeUD := by
  cases h <;> (
    funext T env allow h creator
    unfold Pel.decodeUD
    first | ud_tail | (rd_norm; ud_tail))
theorem udDecodeED (g) (h : Pel.Gen.decodeED? = some g) : g = Pel.decodeED := by
  cases h <;> (
    funext T env allow h
    unfold Pel.decodeED
    first | ud_tail | (rd_norm; ud_tail))

/-- `userDataParsers` starts empty -/
theorem udCacheInit (g) (h : Pel.Gen.udCacheInit? = some g) : g = [] := by
  cases h <;> rfl

/-- ★ `getBuiltinFormatJSON` regenerated from parse_user_data.py IS `builtinFormat` (it never touches the module table) -/
theorem udBuiltin (g) (h : Pel.Gen.udBuiltin? = some g) (creator : Text) (comp sub ver : Nat) (data : Bytes) (c : Cache UdPlugin) :
    UdValue.ofPy (g creator comp sub ver data c).1 = builtinFormat sub data ∧ (g creator comp sub ver data c).2 = c := by
  cases h <;> (
  unfold builtinFormat builtinText
  simp only [bind, pure, pyDecode]
  by_cases h1 : sub = 1
  · simp only [h1, if_true]
    cases utf8Decode data <;> simp [UdValue.ofPy]
  · by_cases h2 : sub = 2
    · have h3 : ¬ sub = 3 := by omega
      simp [h1, h2, h3, UdValue.ofPy, hexdumpJ, hexdump16]
    · by_cases h3 : sub = 3
      · simp only [h1, h2, h3, if_true, if_false]
        cases utf8Decode data with
        | none => simp [UdValue.ofPy]
        | some t =>
          simp only [PyM.pure_bind', PyM.pure_run, UdValue.ofPy]
          rw [textLoop_eq _ (by intro p c; by_cases hc : c = 10 <;> simp [hc])]
          simp
      · simp [h1, h2, h3, UdValue.ofPy, hexdumpJ, hexdump16])

/-- ★ `parseCustom` regenerated from parse_user_data.py: result and module table are what `udLookup` + the model say -/
theorem udParseCustom (g) (h : Pel.Gen.udParseCustom? = some g) (penv : ProcEnv) (c : Cache UdPlugin) (creator : Text) (comp sub ver : Nat)
    (data : Bytes) (hne : data ≠ []) (hc : CacheModulesOk c) :
    g penv.ud creator comp sub ver data (fullKeys c) =
      (customOutcome (udLookup penv c (udModuleName creator comp)).1 creator comp sub ver data,
       fullKeys (udLookup penv c (udModuleName creator comp)).2) := by
  cases h <;> (
  simp only [List.append_assoc, udKey_norm]
  have hc' := hc (udModuleName creator comp)
  generalize udModuleName creator comp = n at hc' ⊢
  unfold udLookup
  simp only [bind, pure, PyM.bind_run, pyTry_run, cacheHas_full, cacheLoad_full, cacheStore_full, udImport_full]
  rcases hg : cacheGet c n with _ | _ | b
  · cases he : penv.ud n <;>
      simp [hg, he, hne, PyM.bind_run, pyTry_run, cacheStore_full, udImport_full, udCall, customOutcome, PyExc.isImportError, PyExc.isException,
        hexdumpJ, hexdump16, errorWithData, failedNote, s_append, s_append_append]
  · simp [hg, hne, PyM.bind_run, pyTry_run, cacheLoad_full, customOutcome, hexdumpJ, hexdump16]
  · obtain ⟨h1, h2⟩ := hc' b hg
    cases b <;>
      simp [hg, hne, PyM.bind_run, pyTry_run, cacheLoad_full, udCall, customOutcome, PyExc.isException, hexdumpJ, hexdump16, errorWithData,
        failedNote, s_append, s_append_append] at h1 h2 ⊢)

/-- ★ `parse` (with `getBuiltinFormatJSON` and `parseCustom` inlined) regenerated from parse_user_data.py IS `parseUserData` of the model
    for the behaviours seen through the module table, and leaves the table `udLookup` says (untouched unless `parseCustom` ran) -/
theorem udParse (g) (h : Pel.Gen.udParse? = some g) (T : Tables) (penv : ProcEnv) (c : Cache UdPlugin) (allow : Bool) (creator : Text)
    (comp sub ver : Nat) (data : Bytes) (hne : data ≠ []) (hc : CacheModulesOk c) :
    UdValue.ofPy (g T penv.ud allow creator comp sub ver data (fullKeys c)).1 =
        parseUserData T (fun n => (udLookup penv c n).1) allow creator comp sub ver data ∧
      (g T penv.ud allow creator comp sub ver data (fullKeys c)).2 =
        fullKeys (if (lookupT T.creators creator = some (s "BMC") ∧ comp = 0x2000) ∨ allow = false then c
                  else (udLookup penv c (udModuleName creator comp)).2) := by
  -- the two methods `parse` calls are inlined in the generated term, and their own definitions may be withdrawn while the copies
  -- stay: each copy is tied where it stands, by the script of `udBuiltin` / `udParseCustom` above
  cases h <;> (
  unfold parseUserData
  by_cases hA : lookupT T.creators creator = some (s "BMC") ∧ comp = 8192
  · simp only [hA, and_self, if_true, true_or]
    try rw [PyM.bind_pure_run]
    unfold builtinFormat builtinText
    simp only [bind, pure, pyDecode]
    by_cases h1 : sub = 1
    · simp only [h1, if_true]
      cases utf8Decode data <;> simp [UdValue.ofPy]
    · by_cases h2 : sub = 2
      · have h3 : ¬ sub = 3 := by omega
        simp [h1, h2, h3, UdValue.ofPy, hexdumpJ, hexdump16]
      · by_cases h3 : sub = 3
        · simp only [h1, h2, h3, if_true, if_false]
          cases utf8Decode data with
          | none => simp [UdValue.ofPy]
          | some t =>
            simp only [PyM.pure_bind', PyM.pure_run, UdValue.ofPy]
            rw [textLoop_eq _ (by intro p c; by_cases hc : c = 10 <;> simp [hc])]
            simp
        · simp [h1, h2, h3, UdValue.ofPy, hexdumpJ, hexdump16]
  · cases allow with
    | false =>
      simp [hA, hne, UdValue.ofPy, hexdumpJ, hexdump16, pure, PyM.pure_run]
    | true =>
      simp only [hA, if_false, if_true, false_or, Bool.true_eq_false, Bool.not_true, Bool.false_eq_true]
      rw [PyM.bind_run_of_eq (r := (customOutcome (udLookup penv c (udModuleName creator comp)).1 creator comp sub ver data,
        fullKeys (udLookup penv c (udModuleName creator comp)).2))]
      · generalize udLookup penv c (udModuleName creator comp) = r
        cases r.1 <;> simp [customOutcome, UdValue.ofPy, pure, PyM.pure_run, errorWithData, failedNote, hne, hexdumpJ, hexdump16, s_append, s_append_append]
      · simp only [List.append_assoc, udKey_norm]
        have hc' := hc (udModuleName creator comp)
        generalize udModuleName creator comp = n at hc' ⊢
        unfold udLookup
        simp only [bind, pure, PyM.bind_run, pyTry_run, cacheHas_full, cacheLoad_full, cacheStore_full, udImport_full]
        rcases hg : cacheGet c n with _ | _ | b
        · cases he : penv.ud n <;>
            simp [hg, he, hne, PyM.bind_run, pyTry_run, cacheStore_full, udImport_full, udCall, customOutcome, PyExc.isImportError, PyExc.isException,
              hexdumpJ, hexdump16, errorWithData, failedNote, s_append, s_append_append]
        · simp [hg, hne, PyM.bind_run, pyTry_run, cacheLoad_full, customOutcome, hexdumpJ, hexdump16]
        · obtain ⟨h1, h2⟩ := hc' b hg
          cases b <;>
            simp [hg, hne, PyM.bind_run, pyTry_run, cacheLoad_full, udCall, customOutcome, PyExc.isException, hexdumpJ, hexdump16, errorWithData,
              failedNote, s_append, s_append_append] at h1 h2 ⊢)

/-- ★ in a fresh process (empty module table) `parse` regenerated from the source IS `parseUserData` for the environment itself -/
theorem udParse_fresh (g) (h : Pel.Gen.udParse? = some g) (gc) (hgc : Pel.Gen.udCacheInit? = some gc) (T : Tables) (penv : ProcEnv)
    (allow : Bool) (creator : Text) (comp sub ver : Nat) (data : Bytes) (hne : data ≠ []) :
    UdValue.ofPy (g T penv.ud allow creator comp sub ver data gc).1 = parseUserData T penv.ud allow creator comp sub ver data := by
  cases udCacheInit gc hgc
  have := (udParse g h T penv [] allow creator comp sub ver data hne cacheModulesOk_nil).1
  simp only [udLookup_nil_fst] at this
  exact this

/-- the model's section decoder on a well-framed payload is `C04.shown` of that payload: what every ★ theorem of C04 is about -/
theorem decodeUD_shown (T : Tables) (env : UdEnv) (allow : Bool) (h : SecHdr) (creator : Text) (data rest : Bytes)
    (hlen : h.len = 8 + data.length) (hne : 1 ≤ data.length) :
    Pel.decodeUD T env allow h creator (data ++ rest) =
      (match C04.shown T env allow h creator data with
        | .ok j => .ok (j, rest)
        | .error e => .error e) := by
  rw [Pel.decodeUD, C04.shown, show h.len - 8 = data.length by omega, getMem_bind _ data rest hne]
  cases udToJson T h creator (parseUserData T env allow creator h.comp h.sub h.ver data) <;> rfl

/-- ★ `C04.never_dropped` for the section decoder regenerated from user_data.py: on a well-framed section the payload is decoded by a
    decoder (built-in format or parser module) or the displayed section contains its lossless dump -/
theorem never_dropped_src (g) (hg : Pel.Gen.decodeUD? = some g) (T : Tables) (env : UdEnv) (allow : Bool) (h : SecHdr) (creator : Text)
    (data rest : Bytes) (hlen : h.len = 8 + data.length) (hne : data ≠ []) :
    (C04.isBuiltin T creator h.comp ∧ (h.sub = 1 ∨ h.sub = 3)) ∨
    (allow = true ∧ ¬ C04.isBuiltin T creator h.comp ∧
      (env (udModuleName creator h.comp) = .echo ∨ ∃ t, env (udModuleName creator h.comp) = .returnsText t)) ∨
    (∃ pre, g T env allow h creator (data ++ rest) =
      .ok (.obj (C04.headMembers T h creator ++ pre ++ [kv "Data" (hexdumpJ data)]), rest)) := by
  rw [udDecodeUD g hg]
  rcases C04.never_dropped T env allow h creator data hne with hx | hx | ⟨pre, hp⟩
  · exact Or.inl hx
  · exact Or.inr (Or.inl hx)
  · refine Or.inr (Or.inr ⟨pre, ?_⟩)
    rw [decodeUD_shown T env allow h creator data rest hlen (List.length_pos_iff.2 hne), hp]

end Pel.Tie

