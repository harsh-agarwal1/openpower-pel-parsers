import PelGen.GenPeltool
import PelProofs.TiePeltool
import PelProps.C10
import PelGen.GenDirModes
import PelProofs.TieDirModes
/-
  Source tie for C10.  Stream `peltool`: `processId` of peltool.py as regenerated from the source text is the model's
  `processId` (PelModel/Cli.lean): `none` = the function leaves through `sys.exit(<message>)`.  Stream `dirmodes`
  (harness/trans_dirmodes.py, PelGen/GenDirModes.lean): the four look-up functions and `parseAndPrintPELFile`, as programs of the
  output monad, are the model's look-up modes and `printOne`; their proofs run the program with the simp set `outm` and compare what
  one pass of a loop does with a semantic step (PelProofs/TieDirModes.lean), so they do not depend on the shape of the generated term.
-/
set_option linter.unusedSimpArgs false
namespace Pel.Tie

theorem processId (g : Text → Option Text) (h : Gen.processId? = some g) : g = Pel.processId := by
  cases h
  all_goals (
    funext t
    -- both sides are trees of `if`s over the same three tests: split them all, every leaf is decided by the tests taken
    simp only [Pel.processId, s_0X]
    repeat' split
    all_goals simp_all)

/-- C10 ★`processId_spellings` for the translated function -/
theorem processId_spellings (g : Text → Option Text) (h : Gen.processId? = some g) (v : Nat) (hv : v < 2 ^ 32) :
    g (hexFix 8 v) = some (hexFix 8 v) ∧ g (hexFixL 8 v) = some (hexFix 8 v) ∧
    g (s "0x" ++ hexFix 8 v) = some (hexFix 8 v) ∧ g (s "0x" ++ hexFixL 8 v) = some (hexFix 8 v) ∧
    g (s "0X" ++ hexFix 8 v) = some (hexFix 8 v) ∧ g (s "0X" ++ hexFixL 8 v) = some (hexFix 8 v) := by
  rw [processId g h]
  exact C10.processId_spellings v hv

section dirmodes
open Pel.TieDM

/-- `parsePelFromPLID(path, config)` with `config.plid = x` is the model's `plidMode … x` -/
theorem parsePelFromPLID (g : Env → DirCfg → Dir → CliOut) (h : Gen.parsePelFromPLID? = some g) :
    ∀ env c d x, c.ids.plid = some x → g env c d = plidMode env c.opts x d := by
  cases h
  all_goals (
    intro env c d x hx
    cases hp : Pel.processId x with
    | none => simp only [OutM.run, outm, ↓reduceIte, hx, hp, plidMode]
    | some pid =>
      have hcfg := selCfg_lookup c (by simp [LookupIds.any, truthy_iff.2 ⟨x, hx, processId_ne_nil hp⟩])
      rw [plidMode_sumOut env c.opts x pid d hp]
      simp only [OutM.run, outm, ↓reduceIte, hx, hp, DirCfg.opts, hcfg]
      rw [forEach_files (rPlid env c.selCfg pid) (sumOn c.hex fun sm => [sm])]
      · simp only [sumOn_fold]
        cases hh : c.hex <;> simp [sumOut, summaryObj_eq]
      · intro f st
        simp only [fileStep, sumOn, rPlid]
        rcases hsum : summaryOf env c.selCfg f with ⟨sm, plid, src⟩ | _ | _
        · obtain ⟨e1, e2, -⟩ := summaryOf_facts hsum
          by_cases hq : pid = fmtHex 8 plid <;> cases hh : c.hex <;>
            simp only [outm, ↓reduceIte, hsum, e1, e2, hq, beq_self_eq_true, beq_iff_eq] <;>
            simp [dmout]
        · simp only [outm, ↓reduceIte, hsum]
        · simp only [outm, ↓reduceIte, hsum])

/-- `parseAndPrintPELFile(file, config, exit_on_error)`: what it prints and reports is the model's `printOne`, it returns whether a
    document was printed; with `exit_on_error` a wrong first / second section id ends the process with status 1 -/
theorem parseAndPrintPELFile (g : Env → DirCfg → FileEntry → Bool → OutM Unit (Ctl Bool)) (h : Gen.dirParseAndPrintPELFile? = some g) :
    ∀ env c f x (st : PySt Unit), g env c f x st =
      if (x && fullOfBad env c.selCfg f) = true then (.exit 1, st)
      else (.ok (.ret (match fullOf env c.selCfg f with | .some _ => true | _ => false)), printStep env c f st) := by
  cases h
  all_goals (
    intro env c f x st
    cases hp : parsePEL env c.selCfg f.data <;> cases hh : c.hex <;> cases x <;>
      simp only [printStep, printOne, fullOf, fullOfBad, DirCfg.opts, outm, ↓reduceIte, hp, hh, prettyPrint_dumps_isEmpty, Bool.and_true, Bool.and_false, Bool.and_self] <;>
      simp [dmout])

/-- `parsePelFromID(path, config)` with `config.pelID = e` is the model's `idMode … e` -/
theorem parsePelFromID (g : Env → DirCfg → Dir → CliOut) (h : Gen.parsePelFromID? = some g) :
    ∀ env c d e, c.ids.pelID = some e → g env c d = idMode env c.opts e d := by
  cases h
  all_goals (
    intro env c d e he
    cases hp : Pel.processId e with
    | none => simp only [OutM.run, outm, ↓reduceIte, he, hp, idMode]
    | some pid =>
      have hcfg := selCfg_lookup c (by simp [LookupIds.any, truthy_iff.2 ⟨e, he, processId_ne_nil hp⟩])
      simp only [OutM.run, outm, ↓reduceIte, he, hp, idMode]
      rw [forEach_find (p := fun f => isInfix pid f.name) (hit := fun f st => { printStep env c f st with loc := true })]
      · cases hf : d.find? (fun f => isInfix pid f.name) with
        | none => simp [s, nl]
        | some f => simp [printStep, DirCfg.opts, hcfg]
      · intro f st
        cases hq : isInfix pid f.name
        · simp only [outm, ↓reduceIte, hq]
        · cases hpp : parsePEL env c.selCfg f.data <;> cases hh : c.hex <;>
            simp only [printStep, printOne, fullOf, DirCfg.opts, outm, ↓reduceIte, hq, hpp, hh, prettyPrint_dumps_isEmpty] <;>
            simp [dmout])

/-- `parsePelFromBmcID(path, config)` with `config.bmcID = n` is the model's `bmcIdMode … n` -/
theorem parsePelFromBmcID (g : Env → DirCfg → Dir → CliOut) (h : Gen.parsePelFromBmcID? = some g) :
    ∀ env c d n, c.ids.bmcID = some n → g env c d = bmcIdMode env c.opts n d := by
  cases h
  all_goals (
    intro env c d n hn
    simp only [OutM.run, hn, bmcIdMode, outm, ↓reduceIte]
    rw [bmc_loop env c.opts n, ← bmcEnd_go]
    · generalize bmcEnd env c.opts n d { loc := false, out := [], errs := 0 } = st
      cases hl : st.loc <;> simp [hl, s, nl, bmcOut]
    · intro f st
      cases hh : c.hex <;> (
        simp only [bmcClass, pyGeneratePH]
        rcases h1 : generatePHRd env f.data with e | ⟨_ | ph, b1⟩
        · simp only [outm, ↓reduceIte, h1]
        · simp only [outm, ↓reduceIte, h1]
        · by_cases hq : natDec ph.obmcLogID = n
          · have hcfg := selCfg_lookup c (by simp [LookupIds.any, truthy_iff.2 ⟨n, hn, hq ▸ natDec_ne_nil _⟩])
            subst hq
            simp only [fullOf, DirCfg.opts, hcfg]
            cases hpp : parsePEL env c.selCfg f.data <;>
              simp only [outm, ↓reduceIte, h1, hh, hpp, prettyPrint_dumps_isEmpty, beq_self_eq_true] <;>
              simp [dmout]
          · have hq1 : (some (natDec ph.obmcLogID) == some n) = false := by simpa using hq
            have hq2 : (some n == some (natDec ph.obmcLogID)) = false := by simpa using fun h => hq h.symm
            simp only [outm, ↓reduceIte, h1, hq, hq1, hq2]))

/-- `parsePelFromSRCID(path, config)` is the model's `srcMode` with `config.src` as the needle and the text of the file
    `config.srcExcludeFile` (when that member is set) as the exclude list — provided one of the two is set (which is when `main`
    calls it).  Without that hypothesis the two differ: the model decodes with the look-up exemption and reports a selected PEL
    without primary SRC, the source does neither when both members are empty. -/
theorem parsePelFromSRCID (g : Env → DirCfg → Text → Dir → CliOut) (h : Gen.parsePelFromSRCID? = some g) :
    ∀ env c excl d, (truthy c.ids.src = true ∨ truthy c.ids.srcExcludeFile = true) →
      g env c excl d = srcMode env c.opts c.ids.src (if truthy c.ids.srcExcludeFile then some excl else none) d := by
  cases h
  all_goals (
    intro env c excl d hr
    have hcfg := selCfg_lookup c (by rcases hr with h | h <;> simp [LookupIds.any, h])
    dsimp only [OutM.run]
    by_cases hlong : ∃ v1, tv c.ids.src = some v1 ∧ v1.length > 32
    · obtain ⟨v1, hs, hl⟩ := hlong
      rw [srcMode_long _ _ _ _ _ hs hl]
      simp only [outm, ↓reduceIte, hs, hl, decide_true]
    · rw [srcMode_short _ _ _ _ _ (fun n hn => Nat.le_of_not_lt fun hl => hlong ⟨n, hn, hl⟩)]
      simp only [DirCfg.opts, hcfg]
      -- the classifier stays behind a name while the two members are analysed, so that every branch of the program takes the same steps below
      generalize hr' : rSrc env c.selCfg (tv c.ids.src) (if truthy c.ids.srcExcludeFile then some excl else none) = r
      simp only [not_exists, not_and] at hlong
      have hne : ∀ v, tv c.ids.src = some v → v ≠ [] := fun v h => (tv_some h).2
      rcases hs : tv c.ids.src with _ | v1 <;> rcases he : tv c.ids.srcExcludeFile with _ | v2
      · simp [truthy, hs, he] at hr
      all_goals (
        simp only [hs, Option.some.injEq, forall_eq'] at hlong hne
        simp only [outm, ↓reduceIte, hs, he, hlong, decide_false]
        rw [forEach_files r (sumOn c.hex id)]
        · simp only [sumOn_fold]
          cases hh : c.hex <;> simp [sumOut, summaryObj_eq]
        · intro f st
          subst hr'
          simp only [fileStep, sumOn, rSrc, truthy, hs, he, Option.isSome]
          rcases hsum : summaryOf env c.selCfg f with ⟨sm, plid, _ | rc⟩ | _ | _
          · obtain ⟨h1, -, h3⟩ := summaryOf_facts hsum
            simp only [outm, ↓reduceIte, hsum, h1, h3, Option.map]
          · obtain ⟨h1, -, h3⟩ := summaryOf_facts hsum
            rcases Bool.eq_false_or_eq_true (isInfix ((tv c.ids.src).getD []) rc) with hi1 | hi1 <;>
            rcases Bool.eq_false_or_eq_true (isInfix rc excl) with hi2 | hi2 <;>
            cases hh : c.hex <;> (
              simp only [hs, Option.getD_some] at hi1
              simp only [outm, ↓reduceIte, hsum, h1, h3, hi1, hi2, Option.map]
              simp [dmout, hne, hi1, hi2])
          · simp only [outm, ↓reduceIte, hsum]
          · simp only [outm, ↓reduceIte, hsum]))

/-! #### the ★ theorems of C10, read with the functions of the source text -/

/-- C10 ★`plid_exact` for the translated `parsePelFromPLID` -/
theorem plid_exact (g : Env → DirCfg → Dir → CliOut) (h : Gen.parsePelFromPLID? = some g)
    (env : Env) (c : DirCfg) (v : Nat) (hv : v < 2 ^ 32) (d : Dir) (x : Text) (hc : c.ids.plid = some x)
    (hx : Pel.processId x = some (hexFix 8 v)) (hnohex : c.hex = false)
    (hplids : ∀ f ∈ d, ∀ sm plid src, parseSummary env { c.opts.cfg with lookup := true } f.data = .summary sm plid src → plid < 2 ^ 32) :
    (g env c d).stdout = prettyPrint 29 (dumps (summaryObj (C10.plidMatches env c.opts v d))) ++ nl ∧ (g env c d).exit = 0 := by
  rw [parsePelFromPLID g h env c d x hc]
  exact C10.plid_exact env c.opts v hv d x hx hnohex hplids

/-- C10 ★`id_lookup` for the translated `parsePelFromID` -/
theorem id_lookup (g : Env → DirCfg → Dir → CliOut) (h : Gen.parsePelFromID? = some g)
    (env : Env) (c : DirCfg) (e pid : Text) (d : Dir) (hc : c.ids.pelID = some e) (hp : Pel.processId e = some pid) :
    (∀ f ∈ d, isInfix pid f.name = false) → (g env c d).stdout = s "PEL not found\n" := by
  rw [parsePelFromID g h env c d e hc]
  exact C10.id_lookup env c.opts e pid d hp

/-- C10 `id_lookup_found` for the translated `parsePelFromID` -/
theorem id_lookup_found (g : Env → DirCfg → Dir → CliOut) (h : Gen.parsePelFromID? = some g)
    (env : Env) (c : DirCfg) (e pid : Text) (d : Dir) (hc : c.ids.pelID = some e) (hp : Pel.processId e = some pid) (f : FileEntry)
    (hf : d.find? (fun f => isInfix pid f.name) = some f) :
    (g env c d).stdout = (printOne env c.opts { c.opts.cfg with lookup := true } f).1 := by
  rw [parsePelFromID g h env c d e hc]
  exact C10.id_lookup_found env c.opts e pid d hp f hf

/-- C10 ★`bmcid_not_found` for the translated `parsePelFromBmcID` -/
theorem bmcid_not_found (g : Env → DirCfg → Dir → CliOut) (h : Gen.parsePelFromBmcID? = some g)
    (env : Env) (c : DirCfg) (n : Text) (d : Dir) (hc : c.ids.bmcID = some n)
    (hn : ∀ f ∈ d, ∀ j ph rest, (do let h1 ← parseHeader; decodePH env.T h1) f.data = .ok ((j, ph), rest) → natDec ph.obmcLogID ≠ n) :
    (g env c d).stdout = s "PEL not found\n" := by
  rw [parsePelFromBmcID g h env c d n hc]
  exact C10.bmcid_not_found env c.opts n d hn

/-- C10 ★`src_exact` for the translated `parsePelFromSRCID`: `--src S` alone lists exactly the PELs whose reference code contains S -/
theorem src_exact (g : Env → DirCfg → Text → Dir → CliOut) (h : Gen.parsePelFromSRCID? = some g)
    (env : Env) (c : DirCfg) (needle excl : Text) (d : Dir) (hc : c.ids.src = some needle) (he : truthy c.ids.srcExcludeFile = false)
    (hn : needle ≠ []) (hl : needle.length ≤ 32) (hnohex : c.hex = false) :
    (g env c excl d).stdout = prettyPrint 29 (dumps (summaryObj (C10.srcMatches env c.opts needle d))) ++ nl := by
  have ht : truthy c.ids.src = true := by
    cases needle with
    | nil => exact absurd rfl hn
    | cons a r => simp [truthy, tv, hc]
  rw [parsePelFromSRCID g h env c excl d (Or.inl ht), hc, he]
  exact C10.src_exact env c.opts needle d hn hl hnohex

end dirmodes

end Pel.Tie
