import PelGen.GenPeltool
import PelProofs.TiePeltool
import PelGen.GenDispatch
import PelProofs.TieDispatch
import PelGen.GenOutput
import PelProofs.TieOutput
import PelProps.C01
/-
  Source ties for C01, from three streams.  Stream `peltool`: `parseHeader` and `getSectionName` of peltool.py, regenerated from
  the source text by harness/trans_peltool.py (PelGen/GenPeltool.lean), are the model's `parseHeader` and `sectionName`
  (PelModel/Sections.lean) — the functions C01's theorems are about.  Then stream `dispatch` (which decoder a section id reaches,
  the section loop of `parsePEL`) and stream `output` (`buildOutput`), each under its own heading below.
-/
set_option linter.unusedSimpArgs false
namespace Pel.Tie

/-- `parseHeader(stream)`: five big-endian reads of widths 2, 2, 1, 1, 2, returned in this order -/
theorem parseHeader (g : Rd SecHdr) (h : Gen.parseHeader? = some g) : g = Pel.parseHeader := by
  cases h <;> first
  | rfl
  | (funext st; simp [Pel.parseHeader, bind, StateT.bind, pure, StateT.pure]; done)

/-- `getSectionName(sectionID)`: the two id bytes as characters, looked up in `sectionNames`, default "Unknown" -/
theorem getSectionName (g : Tables → Nat → Text) (h : Gen.getSectionName? = some g) : g = Pel.sectionName := by
  cases h <;> funext T id <;> first
  | rfl
  | (simp only [sectionName, Nat.shiftRight_eq_div_pow, and_255, s_Unknown, List.cons_append, List.nil_append, List.singleton_append]
     first | done | rfl)
  | (simp [sectionName, Nat.shiftRight_eq_div_pow, and_255, s_Unknown]; done)
  | (simp only [sectionName, s_Unknown]; congr 2; simp [Nat.shiftRight_eq_div_pow, and_255]; omega)

/-- C01 ★`frame_section` with the name function of the source text: each entry is decoded from exactly the bytes its section
    header delimits and stored under the name the translated `getSectionName` gives its id -/
theorem frame_section (gn : Tables → Nat → Text) (hn : Gen.getSectionName? = some gn)
    (env : Env) (creator : Text) (sec : ASection) (hs : sec.WF) (j : J)
    (hr : renderSection env creator sec = .ok j) (rest : Bytes) :
    decodeOne env creator (sec.enc ++ rest) = .ok ((gn env.T sec.body.id, j), rest) := by
  rw [getSectionName gn hn]
  exact C01.frame_section env creator sec hs j hr rest

/-- C01 `name_of_id` for the translated function -/
theorem name_of_id (gn : Tables → Nat → Text) (hn : Gen.getSectionName? = some gn) (T : Tables) (id : Nat) :
    gn T id = (lookupT T.sectionNames [(id / 256) % 256, id % 256]).getD (s "Unknown") := by
  rw [getSectionName gn hn]; rfl

/-! ### stream `dispatch` (harness/trans_dispatch.py, PelGen/GenDispatch.lean): `sectionFun`, the `generate*` wrappers and the section
    loop of `parsePEL`, regenerated from the source text, are the model's `decodeSection` / `decodeSections` (PelModel/Pel.lean).

    A wrapper is translated AS `sectionFun` CALLS IT (the parameters are bound by position to what the call passes); its value is the
    one member it stores in the fresh dictionary, as the pair (name, rendered section): `namedBy T h rd` (PelModel/TransDispatch.lean).
    The section ids are the VALUES of the `SectionID` enumeration read from pel_types.py. -/

open Pel.TieAux in
/-- `generateSRC`: `SRC(stream, <the five header fields in order>, creatorID).toJSON(config)` stored under `getSectionName(sectionID)` -/
theorem generateSRC (g : Env → Text → SecHdr → Rd (Text × J)) (hg : Gen.generateSRC? = some g) :
    g = fun env creator h => namedBy env.T h (Prod.fst <$> decodeSRC env.T env.src h creator env.allowPlugins) := by
  cases hg <;> funext env creator h <;> first
  | with_reducible rfl
  | (simp only [namedBy]; tie_cases)

/-- `generateEH`: `ExtendedUserHeader(…, creatorID).toJSON()` -/
theorem generateEH (g : Env → Text → SecHdr → Rd (Text × J)) (hg : Gen.generateEH? = some g) :
    g = fun env creator h => namedBy env.T h (decodeEH env.T h creator) := by
  cases hg <;> funext env creator h <;> first
  | with_reducible rfl
  | (simp only [namedBy]; tie_cases)

/-- `generateMT`: `FailingMTMS(…, creatorID).toJSON()` -/
theorem generateMT (g : Env → Text → SecHdr → Rd (Text × J)) (hg : Gen.generateMT? = some g) :
    g = fun env creator h => namedBy env.T h (decodeMT env.T h creator) := by
  cases hg <;> funext env creator h <;> first
  | with_reducible rfl
  | (simp only [namedBy]; tie_cases)

/-- `generateED`: `ExtUserData(…).toJSON(config)` (no creator id: the section carries its own) -/
theorem generateED (g : Env → Text → SecHdr → Rd (Text × J)) (hg : Gen.generateED? = some g) :
    g = fun env _ h => namedBy env.T h (decodeED env.T env.ud env.allowPlugins h) := by
  cases hg <;> funext env creator h <;> first
  | with_reducible rfl
  | (simp only [namedBy]; tie_cases)

/-- `generateUD`: `UserData(…, creatorID).toJSON(config)` -/
theorem generateUD (g : Env → Text → SecHdr → Rd (Text × J)) (hg : Gen.generateUD? = some g) :
    g = fun env creator h => namedBy env.T h (decodeUD env.T env.ud env.allowPlugins h creator) := by
  cases hg <;> funext env creator h <;> first
  | with_reducible rfl
  | (simp only [namedBy]; tie_cases)

/-- `generateIP`: `ImpactedPartition(…, creatorID).toJSON()` -/
theorem generateIP (g : Env → Text → SecHdr → Rd (Text × J)) (hg : Gen.generateIP? = some g) :
    g = fun env creator h => namedBy env.T h (decodeLP env.T h creator) := by
  cases hg <;> funext env creator h <;> first
  | with_reducible rfl
  | (simp only [namedBy]; tie_cases)

/-- `generateDefault`: `Default(…).toJSON()` -/
theorem generateDefault (g : Env → Text → SecHdr → Rd (Text × J)) (hg : Gen.generateDefault? = some g) :
    g = fun env _ h => namedBy env.T h (decodeDefault h) := by
  cases hg <;> funext env creator h <;> first
  | with_reducible rfl
  | (simp only [namedBy]; tie_cases)

/-- `sectionFun`: which section id goes to which decoder (`decodeSection`), the result stored under the name of the id -/
theorem sectionFun (g : Env → Text → SecHdr → Rd (Text × J)) (hg : Gen.sectionFun? = some g) :
    g = fun env creator h => namedBy env.T h (Prod.fst <$> decodeSection env creator h) := by
  cases hg <;> funext env creator h <;> first
  | with_reducible rfl
  | (simp only [TieAux.namedBy_decodeSection]; tie_cases)

/-- the loop `for _ in range(2, ph.sectionCount): parseHeader; sectionFun; append` of `parsePEL` is the model's recursive
    `decodeSections`, called the way `parsePELRd` calls it -/
theorem sectionLoop (g : Env → PHInfo → Rd (List (Text × J))) (hg : Gen.sectionLoop? = some g) :
    g = fun env ph => decodeSections env ph.creator (ph.sectionCount - 2) := by
  cases hg <;> funext env ph <;> rw [TieAux.decodeSections_eq_collect, TieAux.decodeOne_eq] <;> first
  | with_reducible rfl
  | (congr 1
     first
     | with_reducible rfl
     | (congr 1; funext h
        simp only [TieAux.namedBy_decodeSection]; tie_cases))

/-- header + translated `sectionFun` = the model's `decodeOne` (the function C01's framing theorem is about) -/
theorem sectionFun_decodeOne (g : Env → Text → SecHdr → Rd (Text × J)) (hg : Gen.sectionFun? = some g) (env : Env) (creator : Text) :
    (Pel.parseHeader >>= fun h => g env creator h) = decodeOne env creator := by
  rw [sectionFun g hg, TieAux.decodeOne_eq]

/-- C01 ★`frame_section` for the dispatch of the source text: a section header followed by the translated `sectionFun` decodes
    exactly the bytes the header delimits and yields the rendered section under the translated name -/
theorem frame_section_dispatch (g : Env → Text → SecHdr → Rd (Text × J)) (hg : Gen.sectionFun? = some g)
    (gn : Tables → Nat → Text) (hn : Gen.getSectionName? = some gn)
    (env : Env) (creator : Text) (sec : ASection) (hs : sec.WF) (j : J)
    (hr : renderSection env creator sec = .ok j) (rest : Bytes) :
    (Pel.parseHeader >>= fun h => g env creator h) (sec.enc ++ rest) = .ok ((gn env.T sec.body.id, j), rest) := by
  rw [sectionFun_decodeOne g hg]
  exact frame_section gn hn env creator sec hs j hr rest

/-! ### stream `output` (harness/trans_output.py, PelGen/GenOutput.lean): `buildOutput`, regenerated from the source text, is the
    model's `buildOutput` (PelModel/Pel.lean) — the numbering C01's ★`numbering_rule` and `entries` are about.

    The Python function makes two passes over `range(len(sections))` with a dictionary `counts[name] = [occurrences, next number]`
    that it updates in place; the generated term is the same program in state-passing form (PelModel/TransOutput.lean: `none` =
    IndexError / KeyError).  The model counts with `countName` and keeps the next numbers in an association list.  The tie is proved
    with two loop invariants (PelProofs/TieOutput.lean: `CountsInv`, `OutInv`).  The sections are the one-member dictionaries
    `sectionFun` leaves in each fresh `OrderedDict` (Tie.sectionFun: `namedBy`), hence `secs.map fun p => [p]`. -/

/-- `buildOutput(sections, out)`: count the names, then store every section under its bare name if the name occurs once and under
    `name + ' ' + str(k)` otherwise, k = 0, 1, 2 … per name in order of appearance -/
theorem buildOutput (g : List (List (Text × J)) → List (Text × J) → Option (List (Text × J))) (h : Gen.buildOutput? = some g) :
    (fun (secs : List (Text × J)) (out : List (Text × J)) => g (secs.map fun p => [p]) out) =
      fun secs out => some (Pel.buildOutput secs out) := by
  cases h <;> (
    funext all out0
    have hlen : pyLen (all.map fun p => [p]) = (all.length : Int) := by simp [pyLen]
    simp only [hlen]
    refine bind_eq_of_sat (pyFor_len_rule all (fun pre _ counts => CountsInv pre counts) ?_ _ CountsInv_nil) ?_
    · -- first pass: whether the name was seen or not, its entry becomes [occurrences so far + 1, 0]
      -- (`Int.add_comm`: the sum may be written either way round)
      intro pre x post counts hl hinv
      have hget := hinv x.1
      have hstep := CountsInv_step x hinv
      simp only [pyAt?_singletons hl, pyKeys, List.map_cons, List.map_nil, pyAt?_zero, pyAt?_one, List.getElem?_cons_zero, Option.pure_def,
        Option.bind_eq_bind, Option.bind_some, pyDictHas_eq, hget]
      by_cases h0 : countName x.1 pre = 0
      all_goals
        simp [h0, Int.add_comm] at hstep ⊢
        exact hstep
    · intro counts hc
      refine bind_eq_of_sat (pyFor_len_rule all (fun _ post st => OutInv all out0 post st) ?_ _ (OutInv_start out0 hc)) ?_
      · -- second pass: the entry of the name is [total, m]; the two branches of the source are the two cases of `OutInv_step`
        intro pre x post st hl hinv
        obtain ⟨out, cts⟩ := st
        obtain ⟨m, hget, hone, hmore⟩ := OutInv_step (by simp [hl]) hinv
        simp only [pyAt?_singletons hl, pyKeys, List.map_cons, List.map_nil, pyAt?_zero, pyAt?_one, List.getElem?_cons_zero, Option.pure_def,
          Option.bind_eq_bind, Option.bind_some, hget]
        by_cases h1 : countName x.1 all = 1
        · have hstep := hone h1
          simp [h1, pyDictGet?, Int.add_comm] at hstep ⊢
          exact hstep
        · have hstep := hmore h1
          have h1' : ¬ ((countName x.1 all : Int) = 1) := by omega
          have h1'' : ¬ ((1 : Int) = (countName x.1 all : Int)) := by omega
          simp [h1, h1', h1'', pyDictGet?, pyListSet?, Int.add_comm] at hstep ⊢
          exact hstep
      · intro st hst
        simpa using OutInv_final hst)

/-- C01 numbering (`entries` / ★`numbering_rule`) for the translated `buildOutput`: when the numbered names are new and distinct,
    the sections are appended to `out` under `numberNames`, the declarative numbering ★`numbering_rule` characterises -/
theorem buildOutput_numbering (g : List (List (Text × J)) → List (Text × J) → Option (List (Text × J))) (h : Gen.buildOutput? = some g)
    (secs out : List (Text × J))
    (hnodup : ((out.map (·.1)) ++ numberNames (secs.map (·.1)) (secs.map (·.1))).Nodup) :
    g (secs.map fun p => [p]) out = some (out ++ (numberNames (secs.map (·.1)) (secs.map (·.1))).zip (secs.map (·.2))) := by
  have := congrFun (congrFun (buildOutput g h) secs) out
  rw [this, buildOutput_eq secs out hnodup]

end Pel.Tie
