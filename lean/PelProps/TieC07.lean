import PelGen.GenPeltool
import PelProofs.TiePeltool
import PelProps.C07
/-
  Source tie for C07 (stream `peltool`): what harness/trans_peltool.py regenerates from the text of user_header.py
  (`UserHeader.isHidden`, `isServiceable`), peltool.py (`considerPELIfSeverityMatches`, `considerPEL`, the `Config` block of
  `main`) and config.py (`Config.__init__`) equals the model of PelModel/Select.lean and PelModel/Main.lean that C07's
  theorems are about.  `self` / `uh` is the pair (severity byte, action-flag word); the `Config` is the model's `SelCfg`
  plus the five id members (`LookupIds`), whose disjunction is the model's `lookup`.
-/
namespace Pel.Tie

/-- `UserHeader.isHidden` returns an int; every caller uses its truth value, which is the model's Bool -/
theorem isHidden (g : Nat → Nat → Nat) (h : Gen.isHidden? = some g) : (fun sev af => g sev af != 0) = fun _ af => Pel.isHidden af := by
  cases h <;> first
  | rfl
  | (funext sev af; simp [Pel.isHidden, Nat.and_comm]; done)

theorem isServiceable (g : Nat → Nat → Bool) (h : Gen.isServiceable? = some g) : g = Pel.isServiceable := by
  cases h <;> first
  | rfl
  | (funext sev af
     simp only [Pel.isServiceable]
     generalize (sev != infoSeverity) = b1
     generalize (af &&& reportFlag != 0) = b2
     generalize (af &&& serviceActionFlag != 0) = b3
     generalize Pel.isHidden af = b4
     cases b1 <;> cases b2 <;> cases b3 <;> cases b4 <;> simp)
  | (funext sev af; simp only [Pel.isServiceable]; grind)

/-- the loop with an early `return True` is the model's recursion over the chosen groups -/
theorem considerPELIfSeverityMatches (g : Nat → Nat → SelCfg → LookupIds → Bool) (h : Gen.considerPELIfSeverityMatches? = some g) :
    g = fun sev _ c _ => sevMatches sev c.severities := by
  cases h <;> funext sev af c ids <;> first
  | exact sevMatches_foldr sev c.severities
  | (simp only [foldr_early_true, sevMatches_any]
     first
     | rfl
     | (congr 1; funext x; first | exact BEq.comm | grind))

/-- ★ the early-return chain of `considerPEL` as the source has it is the model's, and the model's `lookup` member is exactly
    "one of `plid`, `src`, `srcExcludeFile`, `bmcID`, `pelID` is set to a non-empty string" -/
theorem considerPEL (g : Nat → Nat → SelCfg → LookupIds → Bool) (h : Gen.considerPEL? = some g) :
    g = fun sev af c ids => Pel.considerPEL sev af { c with lookup := ids.any } := by
  cases h <;> first
  | rfl
  | (funext sev af c ids
     obtain ⟨every, term, sv', ns, hid, only, sevs, lookup⟩ := c
     simp only [LookupIds.any]
     unfold Pel.considerPEL
     dsimp only
     simp only [← cond_eq_ite]
     generalize Pel.isServiceable sev af = sv
     generalize Pel.isHidden af = hd
     generalize sevMatches sev sevs = m
     generalize (sev == critSysTermSeverity) = t
     generalize sevs.isEmpty = e
     generalize truthy ids.plid = l1
     generalize truthy ids.src = l2
     generalize truthy ids.srcExcludeFile = l3
     generalize truthy ids.bmcID = l4
     generalize truthy ids.pelID = l5
     first
     | (cases l1 <;> cases l2 <;> cases l3 <;> cases l4 <;> cases l5 <;> rfl)
     | (cases every <;> cases term <;> cases sv' <;> cases ns <;> cases hid <;> cases only <;> cases sv <;> cases hd <;>
          cases m <;> cases t <;> cases e <;> simp <;> grind))

/-- `Config()` as `Config.__init__` sets it up is the model's default `MainCfg` with no id member set -/
theorem configInit (g : MainCfg × LookupIds) (h : Gen.configInit? = some g) : g = (({} : MainCfg), ({} : LookupIds)) := by
  cases h <;> first
  | rfl
  | decide

/-- the block `config = Config(); if args.x: config.y = …` of `main()` is `mkConfig`, for every severity table -/
theorem mkConfig (g : List (Text × Nat) → Args → MainCfg) (h : Gen.mkConfig? = some g) : g = Pel.mkConfig := by
  cases h <;> first
  | rfl
  | (funext t a; tie_config_block)

/-! ### the ★ theorems of C07, read with the functions of the source text -/

/-- C07 ★`considerPEL_eq_spec` for the translated `considerPEL`: with no id member set it is the documented rule -/
theorem considerPEL_eq_spec (g : Nat → Nat → SelCfg → LookupIds → Bool) (h : Gen.considerPEL? = some g)
    (sev af : Nat) (c : SelCfg) : g sev af c {} = selected sev af c := by
  rw [considerPEL g h]
  exact C07.considerPEL_eq_spec sev af _ rfl

/-- C07 ★`lookup_considers_all` for the translated `considerPEL`: any one id member set to a non-empty string, no switch -/
theorem lookup_considers_all (g : Nat → Nat → SelCfg → LookupIds → Bool) (h : Gen.considerPEL? = some g)
    (sev af : Nat) (ids : LookupIds) (hl : ids.any = true) : g sev af {} ids = true := by
  rw [considerPEL g h]
  simp only [hl]
  exact C07.lookup_considers_all sev af

/-- C07 ★`main_config_switches` for the translated block -/
theorem main_config_switches (g : List (Text × Nat) → Args → MainCfg) (h : Gen.mkConfig? = some g) (t : List (Text × Nat)) (a : Args) :
    (g t a).sel.every = a.every ∧ (g t a).sel.term = a.term ∧ (g t a).sel.serviceable = a.serviceable ∧
    (g t a).sel.nonServiceable = a.nonServiceable ∧ (g t a).sel.hidden = a.hidden ∧ (g t a).sel.only = a.only ∧
    (g t a).sel.severities = a.severities.filterMap (sevLookup t) ∧ (g t a).sel.lookup = false ∧
    (g t a).allowPlugins = (!a.skipPlugins) ∧ (g t a).hex = a.hex ∧ (g t a).rev = a.reverse ∧ (g t a).ext = tv a.extension := by
  rw [mkConfig g h]
  exact C07.main_config_switches t a

end Pel.Tie
