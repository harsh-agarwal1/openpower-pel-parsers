import PelModel.Cli
import PelModel.Main
import PelProofs.Cli
import PelProofs.Main
import PelProofs.Top
import PelModel.Bmc
/-
  C11 — Only delete options remove files, and only the files they name.
  In the model a directory is the list of its top-level regular files; the read-only modes (`listMode`, `allMode`,
  `countMode`, `plidMode`, `srcMode`, `idMode`, `bmcIdMode`) are functions `Dir → CliOut` that return no directory at
  all, and subdirectories are not even part of what `deleteMode` / `deleteAllMode` / `jsonMode` receive.  The frame
  conditions that remain to be proved are those of the three modes that do change the directory.
-/
namespace Pel.C11

/-- ★ `--delete E` removes at most one file, and only a top-level file whose name contains the processed id -/
theorem delete_at_most_one (e : Text) (d : Dir) :
    (deleteMode e d).2 = d ∨
    ∃ pid f, processId e = some pid ∧ f ∈ d ∧ isInfix pid f.name = true ∧ (deleteMode e d).2 = d.erase f := by
  cases hp : processId e with
  | none => rw [deleteMode_bad d hp]; exact Or.inl rfl
  | some pid =>
    cases hf : d.find? (fun f => isInfix pid f.name) with
    | none => rw [deleteMode_notfound hp hf]; exact Or.inl rfl
    | some f =>
      rw [deleteMode_found hp hf]
      have hi : isInfix pid f.name = true := List.find?_some (p := fun (f : FileEntry) => isInfix pid f.name) hf
      exact Or.inr ⟨pid, f, rfl, List.mem_of_find?_eq_some hf, hi, rfl⟩

/-- everything else is untouched: every file other than the removed one is still there, unchanged -/
theorem delete_keeps_others (e : Text) (d : Dir) (g : FileEntry) (hg : g ∈ (deleteMode e d).2) : g ∈ d := by
  rcases delete_at_most_one e d with h | ⟨_, f, _, _, _, h⟩ <;> rw [h] at hg
  · exact hg
  · exact List.mem_of_mem_erase hg

theorem delete_length (e : Text) (d : Dir) : d.length ≤ (deleteMode e d).2.length + 1 := by
  rcases delete_at_most_one e d with h | ⟨_, f, _, hf, _, h⟩ <;> rw [h]
  · exact Nat.le_succ _
  · rw [List.length_erase_of_mem hf]
    omega

/-- ★ if no top-level file name contains the id, nothing is removed and "PEL not found" is reported -/
theorem delete_not_found (e pid : Text) (d : Dir) (hp : processId e = some pid) (h : ∀ f ∈ d, isInfix pid f.name = false) :
    deleteMode e d = ({ stdout := s "PEL not found\n", stderrLines := 0, exit := 0 }, d) :=
  deleteMode_notfound hp (List.find?_eq_none.2 fun f hfd => by simp [h f hfd])

/-- an id of the wrong length is rejected before anything is touched -/
theorem delete_bad_id (e : Text) (d : Dir) (hp : processId e = none) : (deleteMode e d).2 = d ∧ (deleteMode e d).1.exit = 1 := by
  rw [deleteMode_bad d hp]
  exact ⟨rfl, rfl⟩

/-- ★ `--delete-all` removes all the top-level regular files (and nothing else exists in its argument) -/
theorem delete_all (d : Dir) : (deleteAllMode d).2 = [] := by
  rfl

/-- ★ `--json` creates only files named `<pel file>.<entry id>.json`, one per decodable selected input -/
theorem json_creates_only (env : Env) (o : CliOpts) (clean : Bool) (d : Dir) :
    ∀ c ∈ (jsonMode env o clean d).created, ∃ f ∈ d, ∃ eid j, parsePEL env o.cfg f.data = .doc eid j ∧
      c = (f.name ++ [46] ++ eid ++ s ".json", prettyPrint 34 (dumps j)) := by
  intro c hc
  simp only [jsonMode, List.mem_filterMap, List.mem_map, List.mem_filter] at hc
  obtain ⟨_, ⟨f, ⟨hfd, _⟩, rfl⟩, hc⟩ := hc
  split at hc
  · rename_i eid j hfo
    exact ⟨f, hfd, eid, j, fullOf_some_iff.1 hfo, (Option.some.inj hc).symm⟩
  · cases hc

/-- ★ `--json` removes inputs only with `--clean`, and then only inputs whose document was produced -/
theorem json_removes_only (env : Env) (o : CliOpts) (clean : Bool) (d : Dir) :
    (clean = false → (jsonMode env o clean d).removed = []) ∧
    ∀ n ∈ (jsonMode env o clean d).removed, ∃ f ∈ d, f.name = n ∧ ∃ eid j, parsePEL env o.cfg f.data = .doc eid j := by
  refine ⟨fun h => by simp [jsonMode, h], ?_⟩
  intro n hn
  cases clean with
  | false => simp [jsonMode] at hn
  | true =>
    simp only [jsonMode, if_true, List.mem_filterMap, List.mem_map, List.mem_filter] at hn
    obtain ⟨_, ⟨f, ⟨hfd, _⟩, rfl⟩, hc⟩ := hn
    split at hc
    · rename_i x hfo
      exact ⟨f, hfd, Option.some.inj hc, x.1, x.2, fullOf_some_iff.1 hfo⟩
    · cases hc

/-! ### `main()`: which options can make it reach a removing function (model: PelModel/Main.lean) -/

/-- ★ the executable priority chain `dispatch` (the `if` cascade of `main()`, in source order) is exactly the declarative chain `Chain`
    ("the first truthy mode option wins; every earlier one was falsy"), and `Chain` admits no other result -/
theorem main_dispatch_is_chain (fs : FsView) (a : Args) :
    Chain fs a (dispatch fs a).1 (dispatch fs a).2.sel.lookup ∧
    ∀ act lk, Chain fs a act lk → act = (dispatch fs a).1 ∧ lk = (dispatch fs a).2.sel.lookup :=
  ⟨dispatch_chain fs a, fun _ _ h => by rw [dispatch_of_chain h, cfgOf_lookup]; exact ⟨rfl, rfl⟩⟩

/-- ★ `main` reaches `deletePELFromPELId(dir, e)` only when `-d e` was given with a non-empty `e`, `deleteAllPELs` only when `-D` was
    given, and passes `delete_after_parsing = True` / calls its own `os.remove` (the `-f` branch) only when `--clean` was given —
    for every file-system answer and every parsed argument vector -/
theorem main_removes_only_on_request (fs : FsView) (a : Args) :
    (∀ d e, (dispatch fs a).1 = .deleteMode d e → a.delete = some e ∧ e ≠ []) ∧
    (∀ d, (dispatch fs a).1 = .deleteAllMode d → a.deleteAll = true) ∧
    (∀ p, (dispatch fs a).1 = .fileMode p true → a.clean = true) ∧
    (∀ d o, (dispatch fs a).1 = .jsonMode d o true → a.clean = true) := by
  have h := dispatch_chain fs a
  refine ⟨fun d e he => ?_, fun d he => ?_, fun p he => ?_, fun d o he => ?_⟩ <;> rw [he] at h
  · exact tv_some h.delete_inv.2.2.2.2
  · exact h.deleteAll_inv.2.2.2.2.2
  · exact h.file_inv.2.symm
  · exact h.json_inv.2.1.symm

/-- every other invocation is read-only at the level of `main`: without (truthy) `-d`, without `-D` and without `--clean`, no removing
    function is reached and no callee is told to delete -/
theorem main_readonly_without_delete_clean (fs : FsView) (a : Args)
    (hd : truthy a.delete = false) (hD : a.deleteAll = false) (hc : a.clean = false) :
    (∀ d e, (dispatch fs a).1 ≠ .deleteMode d e) ∧ (∀ d, (dispatch fs a).1 ≠ .deleteAllMode d) ∧
    (∀ p, (dispatch fs a).1 ≠ .fileMode p true) ∧ (∀ d o, (dispatch fs a).1 ≠ .jsonMode d o true) ∧
    (dispatch fs a).1.mayRemove = false := by
  have h5 : (dispatch fs a).1.mayRemove = false := Bool.eq_false_iff.2 fun hm => by
    rcases (dispatch_chain fs a).mayRemove_inv hm with h | ⟨_, h | h⟩
    · rw [hc] at h; cases h
    · rw [hd] at h; cases h
    · rw [hD] at h; cases h
  -- the four forms named are the ones `mayRemove` is true of
  have ne : ∀ act : Action, act.mayRemove = true → (dispatch fs a).1 ≠ act := fun act hm he => by
    rw [he, hm] at h5; cases h5
  exact ⟨fun _ _ => ne _ rfl, fun _ => ne _ rfl, fun _ => ne _ rfl, fun _ _ => ne _ rfl, h5⟩

/-- ★ the directory: `deletePELFromPELId` / `deleteAllPELs` — and every other directory mode — are called with exactly the `-p` value, and
    only after `os.path.isdir` said it is a directory -/
theorem main_delete_directory (fs : FsView) (a : Args) :
    (∀ d e, (dispatch fs a).1 = .deleteMode d e → a.path = some d ∧ fs.isDir d = true) ∧
    (∀ d, (dispatch fs a).1 = .deleteAllMode d → a.path = some d ∧ fs.isDir d = true) ∧
    (∀ d, (dispatch fs a).1.dir? = some d → a.path = some d ∧ d ≠ [] ∧ fs.isDir d = true) := by
  have key : ∀ d, (dispatch fs a).1.dir? = some d → a.path = some d ∧ d ≠ [] ∧ fs.isDir d = true := fun d hd =>
    have h := (dispatch_chain fs a).dir_inv hd
    ⟨(tv_some h.1).1, (tv_some h.1).2, h.2⟩
  refine ⟨fun d e h => ?_, fun d h => ?_, key⟩
  · have := key d (by rw [h]; rfl); exact ⟨this.1, this.2.2⟩
  · have := key d (by rw [h]; rfl); exact ⟨this.1, this.2.2⟩

/-- ★ one action per invocation, in priority order: if any of `-f -j -i --bmc-id --plid --src --src-exclude -l -n -a` is given (truthily),
    a simultaneous `-d` / `-D` is not executed; and `-d` takes precedence over `-D` -/
theorem main_lower_priority_delete (fs : FsView) (a : Args)
    (h : truthy a.file = true ∨ a.json = true ∨ truthy a.pelID = true ∨ truthy a.bmcID = true ∨ truthy a.plid = true ∨
         truthy a.src = true ∨ truthy a.srcExclude = true ∨ a.list = true ∨ a.count = true ∨ a.all = true) :
    (∀ d e, (dispatch fs a).1 ≠ .deleteMode d e) ∧ (∀ d, (dispatch fs a).1 ≠ .deleteAllMode d) := by
  have hc := dispatch_chain fs a
  -- both delete rules list every one of these options as absent
  have key : a.NoHigherMode → a.NoDisplayMode → False := by
    intro hh hn
    simp only [truthy_eq_true, hh.file, hh.json, hh.pelID, hh.bmcID, hh.plid, hh.src, hh.srcExclude, hn.list, hn.count, hn.all] at h
    simp at h
  constructor
  · intro d e he; rw [he] at hc; exact key hc.delete_inv.1 hc.delete_inv.2.1
  · intro d he; rw [he] at hc; exact key hc.deleteAll_inv.1 hc.deleteAll_inv.2.1

theorem main_delete_before_delete_all (fs : FsView) (a : Args) (h : truthy a.delete = true) :
    ∀ d, (dispatch fs a).1 ≠ .deleteAllMode d := by
  intro d he
  have hc := dispatch_chain fs a
  rw [he] at hc
  obtain ⟨v, hv⟩ := truthy_eq_true.1 h
  rw [hc.deleteAll_inv.2.2.2.2.1] at hv
  cases hv

/-- every action other than one of the four `sys.exit("message")` sites makes `main` itself end with status 0 -/
theorem dispatch_total_exit0 (fs : FsView) (a : Args) :
    (∀ m, (dispatch fs a).1 ≠ .exitMsg m) → mainExit (dispatch fs a).1 = 0 := by
  intro h
  cases hact : (dispatch fs a).1 with
  | exitMsg m => exact absurd hact (h m)
  | _ => rfl

theorem exit_status_of_message (m : ExitSite) : mainExit (.exitMsg m) = 1 ∧ mainStderr (.exitMsg m) = some (exitText m) := ⟨rfl, rfl⟩

/-! Non-vacuity: concrete command lines for each statement above (`/pels` and `/out` are directories, `/x.txt` is a file). -/
def fsDemo : FsView := { isDir := fun p => p == s "/pels" || p == s "/out", isFile := fun p => p == s "/x.txt" }

-- `-p /pels -d 50000001 -D`: the single delete runs, not delete-all
example : dispatch fsDemo { path := some (s "/pels"), delete := some (s "50000001"), deleteAll := true } =
    (.deleteMode (s "/pels") (s "50000001"), {}) := by decide +kernel
-- `-p /pels -d "" -D`: an empty id counts as not given, so delete-all runs
example : dispatch fsDemo { path := some (s "/pels"), delete := some [], deleteAll := true } = (.deleteAllMode (s "/pels"), {}) := by decide +kernel
-- `-p /pels -l -d 50000001 -D`: listing wins, nothing is deleted
example : dispatch fsDemo { path := some (s "/pels"), list := true, deleteAll := true, delete := some (s "50000001") } =
    (.listMode (s "/pels"), {}) := by decide +kernel
-- `-p /nope -D`: not a directory, nothing is called
example : (dispatch fsDemo { path := some (s "/nope"), deleteAll := true }).1 = .exitMsg (.notDir (s "/nope")) := by decide +kernel
-- `-f /pels/a --clean -D` (no -p needed): file mode, with the clean flag
example : (dispatch fsDemo { file := some (s "/pels/a"), clean := true, deleteAll := true }).1 = .fileMode (s "/pels/a") true := by decide +kernel
example : (dispatch fsDemo { path := some (s "/pels"), json := true, outputDir := some (s "/out"), clean := true }).1 =
    .jsonMode (s "/pels") (s "/out") true := by decide +kernel
example : (dispatch fsDemo { path := some (s "/pels"), json := true, outputDir := some (s "/none") }).1 =
    .exitMsg (.noOutputDir (s "/none")) := by decide +kernel
-- `--src-exclude /missing`: the id is stored in the Config before the file test fails
example : dispatch fsDemo { path := some (s "/pels"), srcExclude := some (s "/missing") } =
    (.exitMsg (.noExcludeFile (s "/missing")), { sel := { lookup := true } }) := by decide +kernel
example : (dispatch fsDemo { deleteAll := true }).1 = .exitMsg .noPath := by decide +kernel
example : (dispatch fsDemo { path := some (s "/pels") }).1 = .nothing ∧ mainExit .nothing = 0 := by decide +kernel
example : mainExit (dispatch fsDemo { deleteAll := true }).1 = 1 := by decide +kernel

/-! ### the WHOLE command: `runMain` = `dispatch` followed by the mode it names, on a `World` (model: PelModel/Top.lean) -/

/-- a file `--json` writes: `<pel file>.<entry id>.json`, holding the document of a decodable, selected top-level file of the directory -/
def IsJsonOutput (env : Env) (cfg : SelCfg) (d : Dir) (g : FileEntry) : Prop :=
  ∃ f ∈ d, ∃ eid j, parsePEL env cfg f.data = .doc eid j ∧
    g = { name := f.name ++ [46] ++ eid ++ s ".json", data := prettyPrint 34 (dumps j) }

/-- `w'` differs from `w` at most by `--json` output files: nothing disappears, every file keeps its content unless it is (over)written as
    such an output, and whatever is new — in the `-p` directory or in the `-o` directory — is such an output -/
structure OnlyJsonAdded (env : Env) (cfg : SelCfg) (w w' : World) : Prop where
  pathIsDir : w'.pathIsDir = w.pathIsDir
  subdirs : w'.subdirs = w.subdirs
  file : w'.file = w.file
  exclude : w'.exclude = w.exclude
  dirKeeps : ∀ f ∈ w.dir, ∃ g ∈ w'.dir, g.name = f.name ∧ (g = f ∨ IsJsonOutput env cfg w.dir g)
  dirNew : ∀ g ∈ w'.dir, g ∈ w.dir ∨ IsJsonOutput env cfg w.dir g
  outSome : w'.out.isSome = w.out.isSome
  outKeeps : ∀ od od', w.out = some od → w'.out = some od' →
    ∀ f ∈ od, ∃ g ∈ od', g.name = f.name ∧ (g = f ∨ IsJsonOutput env cfg w.dir g)
  outNew : ∀ od od', w.out = some od → w'.out = some od' → ∀ g ∈ od', g ∈ od ∨ IsJsonOutput env cfg w.dir g

/-- from what happens to the two directories (the output directory, if there is one, going through `F`) -/
theorem OnlyJsonAdded.of_dirs {env : Env} {cfg : SelCfg} {w w' : World} (h1 : w'.pathIsDir = w.pathIsDir) (h2 : w'.subdirs = w.subdirs)
    (h3 : w'.file = w.file) (h4 : w'.exclude = w.exclude) (hd : DirAdds (IsJsonOutput env cfg w.dir) w.dir w'.dir) (F : Dir → Dir)
    (ho : w'.out = w.out.map F) (hF : ∀ od, DirAdds (IsJsonOutput env cfg w.dir) od (F od)) : OnlyJsonAdded env cfg w w' where
  pathIsDir := h1
  subdirs := h2
  file := h3
  exclude := h4
  dirKeeps := hd.1
  dirNew := hd.2
  outSome := by rw [ho]; cases w.out <;> rfl
  outKeeps := fun od od' h h' => by
    rw [ho, h] at h'; cases h'; exact (hF od).1
  outNew := fun od od' h h' => by
    rw [ho, h] at h'; cases h'; exact (hF od).2

theorem OnlyJsonAdded.refl (env : Env) (cfg : SelCfg) (w : World) : OnlyJsonAdded env cfg w w :=
  .of_dirs rfl rfl rfl rfl (.refl _ _) id (by simp) fun _ => .refl _ _

/-- the `-j` branch without `--clean`, for every directory content -/
theorem jsonBranch_only_adds (env : Env) (c : MainCfg) (act : Action) (p out : Text) (w : World) :
    OnlyJsonAdded env c.sel w (jsonBranch env c act p out false w).world ∧
    (out ≠ p → (jsonBranch env c act p out false w).world.dir = w.dir) := by
  have hrm : (jsonMode env c.opts false w.dir).removed = [] := (json_removes_only env c.opts false w.dir).1 rfl
  have hcr : ∀ q ∈ (jsonMode env c.opts false w.dir).created, IsJsonOutput env c.sel w.dir { name := q.1, data := q.2 } := by
    intro q hq
    obtain ⟨f, hf, eid, j, hdoc, hq'⟩ := json_creates_only env c.opts false w.dir q hq
    exact ⟨f, hf, eid, j, hdoc, by rw [hq']⟩
  unfold jsonBranch
  simp only [hrm, removeNames_nil]
  by_cases ho : out = p
  · simp only [ho, if_true, ne_eq, not_true_eq_false, false_implies, and_true]
    exact .of_dirs rfl rfl rfl rfl (.writeFiles hcr _) id (by simp) fun _ => .refl _ _
  · simp only [ho, if_false, ne_eq, not_false_eq_true, forall_const, and_true]
    exact .of_dirs rfl rfl rfl rfl (.refl _ _) _ rfl fun od => .writeFiles hcr od

/-- ★ the whole command is read-only unless asked otherwise — for ALL decoder environments, command lines, worlds and fault plans:
    (1) a command line without (non-empty) `-d`, without `-D`, without `--clean` and without `--json` leaves the world exactly as it was
        (the `-p` directory's files and their order, its subdirectories, the `-f` file, the exclude file, the output directory);
    (2) with `--json` and without `--clean` nothing disappears and nothing changes except that files named `<pel file>.<entry id>.json`,
        holding the document of a decodable selected top-level file, appear (or are overwritten) in the output directory — which is the
        `-p` directory itself only if `-o` is absent or names it: with `-o` naming another directory the `-p` directory is unchanged -/
theorem command_readonly (fault : Nat → Bool) (env : Env) (a : Args) (w : World) :
    (truthy a.delete = false → a.deleteAll = false → a.clean = false → a.json = false →
      (runMainF fault env a w).world = w) ∧
    (a.json = true → a.clean = false →
      OnlyJsonAdded (env.withCfg (mkConfig severityGroupTable a)) (mkConfig severityGroupTable a).sel w (runMainF fault env a w).world ∧
      (∀ o, tv a.outputDir = some o → tv a.path ≠ some o → (runMainF fault env a w).world.dir = w.dir)) := by
  have h := dispatch_chain (w.fsView a) a
  -- apart from the `-j` branch, an action that cannot remove leaves the world alone (`runAction_world_readonly`)
  constructor
  · intro hd hD hc hj
    refine runAction_world_readonly fault _ w _ _ (main_readonly_without_delete_clean (w.fsView a) a hd hD hc).2.2.2.2 fun p o he => ?_
    rw [he] at h
    rw [h.json_inv.1] at hj
    cases hj
  · intro hj hc
    have hm : (dispatch (w.fsView a) a).1.mayRemove = false := Bool.eq_false_iff.2 fun hm => by
      rcases h.mayRemove_inv hm with h' | ⟨h', _⟩
      · rw [hc] at h'; cases h'
      · rw [h'.json] at hj; cases hj
    rw [runMainF_of_chain h]
    generalize (dispatch (w.fsView a) a).1 = act at h hm
    generalize (dispatch (w.fsView a) a).2.sel.lookup = lk at h
    by_cases hact : ∃ p o, act = .jsonMode p o false
    · obtain ⟨p, o, rfl⟩ := hact
      obtain ⟨_, _, rfl, hp, ho⟩ := h.json_inv
      obtain ⟨h1, h2⟩ := jsonBranch_only_adds (env.withCfg (cfgOf a false)) (cfgOf a false) (.jsonMode p o false) p o w
      refine ⟨h1, fun o' ho' hne => h2 fun heq => ?_⟩
      rcases ho with ho | ho <;> rw [ho] at ho' <;> cases ho'
      exact hne (heq ▸ hp)
    · rw [runAction_world_readonly fault _ w act _ hm fun p o he => hact ⟨p, o, he⟩]
      exact ⟨OnlyJsonAdded.refl _ _ w, fun _ _ _ => rfl⟩

/-- ★ the delete options remove exactly what they name — at the level of the whole command, when the delete option is REACHED (`-p` names a
    directory and no option of higher priority is on the command line):
    `-d E`: the new world is the old one, or the old one minus ONE top-level regular file of the `-p` directory whose name contains the
    processed id (everything else — the other files and their order, the subdirectories, the `-f` / exclude / output files — is as it was);
    `-D` (no non-empty `-d`): exactly the top-level regular files are gone; the subdirectory names and everything else are unchanged -/
theorem command_delete_exact (fault : Nat → Bool) (env : Env) (a : Args) (w : World) (p : Text)
    (hh : a.NoHigherMode) (hnd : a.NoDisplayMode) (hp : tv a.path = some p) (hd : w.pathIsDir = true) :
    (∀ e, tv a.delete = some e →
      (runMainF fault env a w).world = w ∨
      ∃ pid f, processId e = some pid ∧ f ∈ w.dir ∧ isInfix pid f.name = true ∧
        (runMainF fault env a w).world = { w with dir := w.dir.erase f }) ∧
    (tv a.delete = none → a.deleteAll = true → (runMainF fault env a w).world = { w with dir := [] }) := by
  constructor
  · intro e he
    rw [runMainF_of_chain (chain_delete hh hnd hp hd he)]
    show ({ w with dir := (deleteMode e w.dir).2 } : World) = w ∨ ∃ pid f, _ ∧ _ ∧ _ ∧ ({ w with dir := (deleteMode e w.dir).2 } : World) = _
    exact (delete_at_most_one e w.dir).imp (fun h => by rw [h]) fun ⟨pid, f, h1, h2, h3, h4⟩ => ⟨pid, f, h1, h2, h3, by rw [h4]⟩
  · intro he hD
    rw [runMainF_of_chain (chain_deleteAll hh hnd hp hd he hD)]
    rfl

/-- `--json` as composed (`jsonMode` on the directory) visits exactly the files for which `main()` calls `parseAndWriteOutput` (`jsonCalls`
    on the names `os.walk` yields), in the same order, with the output directory and the delete flag `dispatch` computed -/
theorem command_json_calls (a : Args) (w : World) (p out : Text) (clean : Bool)
    (h : (dispatch (w.fsView a) a).1 = .jsonMode p out clean) :
    jsonCalls (dispatch (w.fsView a) a).2 (w.dir.map (·.name)) (dispatch (w.fsView a) a).1 =
      (w.dir.filter (fun f => match (dispatch (w.fsView a) a).2.opts.ext with
        | some e => if e = [] then true else splitext f.name == e
        | none => true)).map fun f => (pathJoin p f.name, out, clean) := by
  rw [h]
  exact jsonCalls_eq_filter _ (dispatch_ext_ne_empty _ a) w.dir p out clean

/-! Non-vacuity (concrete command lines on `wDemo`: `/pels` holds `junk`, `x_50000001` and the subdirectory `archive`). -/

-- `-p /pels -l` : read-only, whatever the files contain
example : (runMain envDemo { path := some (s "/pels"), list := true } wDemo).world = wDemo :=
  (command_readonly noFault envDemo _ wDemo).1 (by decide) (by decide) (by decide) (by decide)
-- `-p /pels -D` : both files gone, `archive` and everything else untouched
example : (runMain envDemo { path := some (s "/pels"), deleteAll := true } wDemo).world = { wDemo with dir := [] } := by decide +kernel
example : (runMain envDemo { path := some (s "/pels"), deleteAll := true } wDemo).world.subdirs = [s "archive"] := by decide +kernel
-- `-p /pels -d 0x50000001` : exactly the file whose name contains the id is gone
example : (runMain envDemo { path := some (s "/pels"), delete := some (s "0x50000001") } wDemo).world =
    { wDemo with dir := [{ name := s "junk", data := [] }] } := by decide +kernel
-- `-p /pels -d 5EED0000` : no candidate, nothing removed, "PEL not found"
example : (runMain envDemo { path := some (s "/pels"), delete := some (s "5EED0000") } wDemo).world = wDemo ∧
    (runMain envDemo { path := some (s "/pels"), delete := some (s "5EED0000") } wDemo).stdout = s "PEL not found\n" := by decide +kernel
-- `-p /pels -l -D` : the listing wins; `-p /pels -d 50000001 -D` : the single delete wins
example : (runMain envDemo { path := some (s "/pels"), list := true, deleteAll := true } wDemo).world = wDemo ∧
    (runMain envDemo { path := some (s "/pels"), delete := some (s "50000001"), deleteAll := true } wDemo).world =
      { wDemo with dir := [{ name := s "junk", data := [] }] } := by decide +kernel
-- the hypotheses of `command_delete_exact` hold for `-p /pels -D` in `wDemo`
example : ({ path := some (s "/pels"), deleteAll := true } : Args).NoHigherMode ∧
    ({ path := some (s "/pels"), deleteAll := true } : Args).NoDisplayMode ∧ wDemo.pathIsDir = true :=
  ⟨⟨rfl, rfl, rfl, rfl, rfl, rfl, rfl⟩, ⟨rfl, rfl, rfl⟩, rfl⟩
-- `-p /pels -j -o /out` on two undecodable files: nothing is created anywhere, two diagnostics
example : (runMain envDemo { path := some (s "/pels"), json := true, outputDir := some (s "/out") } wDemo).world = wDemo ∧
    (runMain envDemo { path := some (s "/pels"), json := true, outputDir := some (s "/out") } wDemo).diagnostics = 2 := by decide +kernel

-- with real PELs (`wPels`: a hidden PEL, an undecodable file, a selected PEL): `-j -o /out -E` writes two documents into `/out` and leaves
-- `/pels` alone; `-j -E` writes them into `/pels`; `-j -c -o /out` (default selection) writes one and removes exactly its input
example : (runMain envDemo { path := some (s "/pels"), json := true, outputDir := some (s "/out"), every := true } wPels).world.dir = wPels.dir ∧
    ((runMain envDemo { path := some (s "/pels"), json := true, outputDir := some (s "/out"), every := true } wPels).world.out.map
      (fun d => d.map (·.name))) = some [s "b_50000002.50000002.json", s "a_50000001.50000001.json"] ∧
    ((runMain envDemo { path := some (s "/pels"), json := true, every := true } wPels).world.dir.map (·.name)) =
      [s "b_50000002", s "junk", s "a_50000001", s "b_50000002.50000002.json", s "a_50000001.50000001.json"] ∧
    ((runMain envDemo { path := some (s "/pels"), json := true, clean := true, outputDir := some (s "/out") } wPels).world.dir.map (·.name)) =
      [s "b_50000002", s "junk"] ∧
    ((runMain envDemo { path := some (s "/pels"), json := true, clean := true, outputDir := some (s "/out") } wPels).world.out.map
      (fun d => d.map (·.name))) = some [s "a_50000001.50000001.json"] ∧
    (runMain envDemo { path := some (s "/pels"), json := true, clean := true, outputDir := some (s "/out") } wPels).world.subdirs = [s "archive"] := by
  decide +kernel

/-! ### inside a BMC (`PelModel/Bmc.lean`): no `-p`, `-A` selects the archive below the log directory -/

theorem bmc_update_view (b : BmcWorld) (archive : Bool) : b.update archive (b.view archive) = b := by
  cases archive <;> cases b with | mk l ls ar ars f e o => cases ar <;> rfl

theorem bmcPath_truthy (archive : Bool) : tv (some (bmcPath archive)) = some (bmcPath archive) := by
  refine tv_of_ne_nil ?_
  have e : ([] : Text) = s "" := rfl
  cases archive <;> simp only [bmcPath, bmcLogsPath, bmcArchivePath, e, ne_eq, s_eq_iff, String.reduceEq, not_false_eq_true, if_true,
    Bool.false_eq_true, if_false]

/-- ★ inside a BMC, too, a command line without `-d`, `-D`, `-c`, `-j` changes nothing: not the log directory, not the archive, not the
    `-f` file, not the `-o` directory — with or without `-A`, for every environment, command line, BMC and fault plan -/
theorem bmc_command_readonly (fault : Nat → Bool) (env : Env) (a : Args) (archive : Bool) (b : BmcWorld)
    (hd : truthy a.delete = false) (hD : a.deleteAll = false) (hc : a.clean = false) (hj : a.json = false) :
    (runMainBmcF fault env a archive b).world = b := by
  have h := (command_readonly fault env (a.inBmc archive) (b.view archive)).1 hd hD hc hj
  show b.update archive (runMainF fault env (a.inBmc archive) (b.view archive)).world = b
  rw [h]; exact bmc_update_view b archive

/-- ★ whatever the command line: without `-A` the archive (a subdirectory of the log directory) keeps every file, with `-A` the log
    directory does; subdirectories and the exclude file are never touched, and an archive directory neither appears nor disappears -/
theorem bmc_other_directory_untouched (fault : Nat → Bool) (env : Env) (a : Args) (archive : Bool) (b : BmcWorld) :
    (archive = false → (runMainBmcF fault env a archive b).world.archive = b.archive) ∧
    (archive = true → (runMainBmcF fault env a archive b).world.logs = b.logs) ∧
    (runMainBmcF fault env a archive b).world.logSubdirs = b.logSubdirs ∧
    (runMainBmcF fault env a archive b).world.archiveSubdirs = b.archiveSubdirs ∧
    (runMainBmcF fault env a archive b).world.exclude = b.exclude ∧
    (runMainBmcF fault env a archive b).world.archive.isSome = b.archive.isSome := by
  cases archive
  · exact ⟨fun _ => rfl, fun h => Bool.noConfusion h, rfl, rfl, rfl, rfl⟩
  · refine ⟨fun h => Bool.noConfusion h, fun _ => rfl, rfl, rfl, rfl, ?_⟩
    show (Option.map _ b.archive).isSome = _
    cases b.archive <;> rfl

/-- ★ `-D` inside a BMC removes exactly the top-level regular files of the directory worked on (the log directory, or the archive with
    `-A`), and `-d E` at most one of them whose name contains the id -/
theorem bmc_command_delete_exact (fault : Nat → Bool) (env : Env) (a : Args) (archive : Bool) (b : BmcWorld)
    (hh : a.NoHigherMode) (hnd : a.NoDisplayMode) :
    (∀ e, tv a.delete = some e →
      (runMainBmcF fault env a archive b).world = b ∨
      ∃ pid f, processId e = some pid ∧ f ∈ (b.view archive).dir ∧ isInfix pid f.name = true ∧
        (runMainBmcF fault env a archive b).world = b.update archive { b.view archive with dir := (b.view archive).dir.erase f }) ∧
    (tv a.delete = none → a.deleteAll = true →
      (runMainBmcF fault env a archive b).world = b.update archive { b.view archive with dir := [] }) := by
  have hh' : (a.inBmc archive).NoHigherMode := ⟨hh.file, hh.json, hh.pelID, hh.bmcID, hh.plid, hh.src, hh.srcExclude⟩
  have hnd' : (a.inBmc archive).NoDisplayMode := ⟨hnd.list, hnd.count, hnd.all⟩
  have hv : (b.view archive).pathIsDir = true := by cases archive <;> rfl
  have h := command_delete_exact fault env (a.inBmc archive) (b.view archive) (bmcPath archive) hh' hnd' (bmcPath_truthy archive) hv
  have hw : (runMainBmcF fault env a archive b).world =
      b.update archive (runMainF fault env (a.inBmc archive) (b.view archive)).world := rfl
  rw [hw]
  exact ⟨fun e he => (h.1 e he).imp (fun h1 => by rw [h1, bmc_update_view])
    fun ⟨pid, f, h1, h2, h3, h4⟩ => ⟨pid, f, h1, h2, h3, by rw [h4]⟩, fun he hD => by rw [h.2 he hD]⟩

/-- a BMC with two files in the log directory and one in the archive -/
def bDemo : BmcWorld :=
  { logs := [{ name := s "junk", data := [] }, { name := s "x_50000001", data := [1] }], logSubdirs := [s "other"],
    archive := some [{ name := s "old_50000001", data := [2] }] }

-- `peltool -D` : the log directory is emptied, the archive below it keeps its file; `peltool -A -D` : the other way round
example : (runMainBmc envDemo { deleteAll := true } false bDemo).world = { bDemo with logs := [] } := by decide +kernel
example : (runMainBmc envDemo { deleteAll := true } true bDemo).world = { bDemo with archive := some [] } := by decide +kernel
-- `peltool -d 50000001` removes `x_50000001` and not the archived file whose name contains the same id
example : (runMainBmc envDemo { delete := some (s "50000001") } false bDemo).world =
    { bDemo with logs := [{ name := s "junk", data := [] }] } := by decide +kernel
-- `peltool -A -l` on a BMC without an archive directory: an empty listing, nothing changes
example : (runMainBmc envDemo { list := true } true { bDemo with archive := none }).world = { bDemo with archive := none } := by decide +kernel

end Pel.C11
