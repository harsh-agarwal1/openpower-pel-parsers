import PelGen.GenIoDrawer
import PelGen.GenOe500
import PelProofs.HwDiags
import PelProofs.TieIoDrawer
import PelProofs.TieOe500
import PelProps.C20
/-
  C20, source tie: the functions of modules/pel/hwdiags/parserdata.py that harness/trans_iodrawer.py regenerates from the
  CURRENT source text (lean/PelGen/GenIoDrawer.lean) are equal to the hand-written model functions the C20 theorems are about,
  BEHIND THE ASSERTIONS the Python functions start with (`IoSem.chipDescA` … = "AssertionError unless the words are hex words of
  the right length / the numbers fit their width, else the model function").  The hand model has no assertions: it is only
  ever applied to words that `bytes.hex()` / the SRC hex words produce.  The corollaries at the end state the ties without
  the wrapper.
-/
set_option linter.unusedSimpArgs false
namespace Pel.Tie

/-- `ParserData._check_int` returns normally exactly for `v < 2^(8n)` (`1 << (8*n)`, `- 1`, `<=` all read from the source) -/
theorem hw_check_int (g) (h : Pel.Gen.hw_check_int? = some g) : g = IoSem.checkInt := by
  cases h <;> (
  funext v n
  simp only [IoSem.checkInt, Nat.one_shiftLeft]
  have hp : 0 < 2 ^ (8 * n) := Nat.pow_pos (by decide)
  generalize 2 ^ (8 * n) = P at *
  by_cases hv : v < P
  · have : ((v : Nat) : Int) ≤ ((P : Nat) : Int) - 1 := by omega
    simp [hv, this]
  · have : ¬ ((v : Nat) : Int) ≤ ((P : Nat) : Int) - 1 := by omega
    simp [hv, this]
  )

theorem dataGet_lower (cd : List ChipData) (ec : Text) : IoSem.dataGet cd (lowerT ec) = chipFor cd ec := rfl

theorem hw_get_attn_desc (g) (h : Pel.Gen.hw_get_attn_desc? = some g) : g = IoSem.attnDescA := by
  cases h <;> (
  funext cd ec attn
  simp only [IoSem.attnDescA, attnDesc, dataGet_lower]
  )

theorem hw_get_chip_desc (g) (h : Pel.Gen.hw_get_chip_desc? = some g) : g = IoSem.chipDescA := by
  cases h <;> (
  funext cd ec node chip
  unfold IoSem.chipDescA chipDesc
  repeat rw [s_ofList]
  cases IoSem.checkHex ec 4 <;> cases IoSem.checkInt node 1 <;> cases IoSem.checkInt chip 2 <;> simp [dataGet_lower]
  )

theorem hw_get_sig_desc (g) (h : Pel.Gen.hw_get_sig_desc? = some g) : g = IoSem.sigDescA := by
  cases h <;> (
  funext cd ec sid inst bit
  unfold IoSem.sigDescA sigDesc
  repeat rw [s_ofList]
  cases IoSem.checkHex ec 4 <;> cases IoSem.checkHex sid 2 <;> cases IoSem.checkInt inst 1 <;> cases IoSem.checkInt bit 1 <;>
    simp [dataGet_lower]
  generalize ((chipFor cd ec).bind fun x => x.signatures) = o
  cases o with
  | none => rfl
  | some m => simp only [Option.bind_some, Function.comp]; cases lookup3 m (lowerT sid) <;> rfl
  )

theorem hw_get_reg_data (g) (h : Pel.Gen.hw_get_reg_data? = some g) : g = IoSem.regDataA := by
  cases h <;> (
  funext cd ec rid inst
  unfold IoSem.regDataA regData
  repeat rw [s_ofList]
  cases IoSem.checkHex ec 4 <;> cases IoSem.checkHex rid 3 <;> cases IoSem.checkInt inst 1 <;> simp [dataGet_lower]
  generalize ((chipFor cd ec).bind fun x => x.registers) = o
  cases o with
  | none => rfl
  | some m => simp only [Option.bind_some, Function.comp]; cases lookup3 m (lowerT rid) <;> rfl
  )

theorem hw_get_signature (g) (h : Pel.Gen.hw_get_signature? = some g) : g = IoSem.getSignatureA := by
  cases h <;> (
  funext cd a b c
  unfold IoSem.getSignatureA getSignature
  repeat rw [s_ofList]
  cases ha : IoSem.checkHex a 4 <;> cases hb : IoSem.checkHex b 4 <;> cases hc : IoSem.checkHex c 4 <;> simp
  simp (disch := first | assumption | omega) only [IoSem.chipDescA, IoSem.sigDescA, IoSem.attnDescA, ha,
    IoSem.checkInt_parse_slice b 4 _ _ 1 hb, IoSem.checkInt_parse_slice b 4 _ _ 2 hb, IoSem.checkInt_parse_slice c 4 _ _ 1 hc,
    IoSem.checkHex_slice c 4 _ _ 2 hc, Bool.and_self, if_true, Option.bind_some]
  simp [IoSem.slice_eq]
  )

/-- without the wrapper: on hex words of eight digits `get_signature` does not raise and returns the model's object -/
theorem hw_get_signature_hex (g) (h : Pel.Gen.hw_get_signature? = some g) (cd : List ChipData) (a b c : Text)
    (ha : IoSem.checkHex a 4 = true) (hb : IoSem.checkHex b 4 = true) (hc : IoSem.checkHex c 4 = true) :
    g cd a b c = some (getSignature cd a b c) := by
  rw [hw_get_signature g h]
  simp [IoSem.getSignatureA, ha, hb, hc]

theorem checkHex_hexFix8 (v : Nat) : IoSem.checkHex (hexFix 8 v) 4 = true := by
  rw [IoSem.checkHex_iff]
  exact ⟨hexFix_length 8 v, hexFix_all_hex 8 v⟩

/-- ★ `C20.signature_fields_upper` transported to the regenerated `get_signature`: the slice bounds in the source text are the
    byte positions of chip, node, attention type, signature id, instance and bit -/
theorem hw_get_signature_fields_upper (g) (h : Pel.Gen.hw_get_signature? = some g) (cd : List ChipData) (a b c : Nat)
    (ha : a < 2^32) (hb : b < 2^32) (hc : c < 2^32) :
    g cd (hexFix 8 a) (hexFix 8 b) (hexFix 8 c) = some
      (.obj [(s "Chip Desc", .str (chipDesc cd (hexFix 8 a) (sigFields a b c).nodePos (sigFields a b c).chipPos)),
             (s "Signature", .str (sigDesc cd (hexFix 8 a) (hexFix 4 (sigFields a b c).sigId) (sigFields a b c).inst (sigFields a b c).bit)),
             (s "Attn Type", .str (attnDesc cd (hexFix 8 a) (sigFields a b c).attn))]) := by
  rw [hw_get_signature_hex g h cd _ _ _ (checkHex_hexFix8 a) (checkHex_hexFix8 b) (checkHex_hexFix8 c),
    C20.signature_fields_upper cd a b c ha hb hc]

end Pel.Tie

/-
  C20, source tie, second half (stream `oe500`): the two shipped parser modules modules/udparsers/oe500/oe500.py and
  modules/srcparsers/oe500/oe500.py, regenerated from the CURRENT source text by harness/trans_oe500.py
  (lean/PelGen/GenOe500.lean), are equal to `oe500Ud` / `oe500Src`, the functions the ★ theorems `siglist_roundtrip`,
  `regdump_roundtrip`, `src_words` (and `scratch_regs/sig`, `callout_ffdc`) are about.  Calls of `ParserData` methods appear in
  the generated terms as the functions BEHIND THEIR ASSERTIONS (`IoSem.getSignatureA` …, tied to parserdata.py above); the
  proofs show that the assertions hold on what the user-data parser passes:
    * the hex words are `bytes.hex()` of `get_mem(n)` results, so they have the asserted length and consist of hex digits;
    * the numbers are `get_int(n)` results, which are below `256^n` PROVIDED every element of the section data is a byte.
  The model's `Bytes` is `List Nat`; on a list with an element above 255 `oe500Ud cd 2` (which has no assertions) and the source
  (which would raise AssertionError) differ, so the register-dump tie carries the hypothesis `allBytes data` (the domain of the
  model); the other sub-types need none.  The SRC parser hands its hex words to `get_signature` unchecked, so its tie states
  the AssertionError explicitly (`.raises` unless words 6..8 are eight hex digits each).
-/
namespace Pel.Tie
open Pel.Oe

/-! The dispatcher `parseUDToJson` is generated with its callees inlined (`Oe.tail (Oe.out <body>)` per sub-type, translated again at
    the call), so the script that ties a callee has to run on two terms: the callee's own definition and its copy inside the
    dispatcher.  Neither term can be named in a lemma, and the dispatcher's proof cannot go through the callee's tie theorem: the copy
    is still there when the callee's own definition is `none` (a `_parse_*` function renamed in the source).  Hence the three tactic
    abbreviations `oe_sig`, `oe_reg`, `oe_same`, each a fixed script: `counted_fold` takes the generated loop to the `rdRepeat` form,
    the body is compared read by read with what each read guarantees (`EqOn.bind_getMem`, `EqOn.bind_getInt`), and the result is
    `udRd` up to the spelling of a key. -/

/-- the signature list: per round three 4-byte words, and `get_signature` does not raise on their `hex()` -/
macro "oe_sig" cd:term : tactic => `(tactic| (
  refine (counted_fold suffix_true _ trivial 4 (sigStep $cd) (keeps_true _) (fun acc x => acc ++ [x]) _ _
    (fun n i acc => ?_) _).trans ?_
  · simp only [sigStep, bind_assoc, pure_bind]
    refine EqOn.bind_getMem suffix_true 4 fun a ha => ?_
    refine EqOn.bind_getMem suffix_true 4 fun b hb => ?_
    refine EqOn.bind_getMem suffix_true 4 fun c hc => ?_
    simp only [getSignatureA_hex _ a b c ha hb hc, rdOfOption_some, pure_bind]
    exact EqOn.refl
  · simp only [foldl_snoc, List.nil_append, oe500Ud_out, udRd, Nat.reduceEqDiff, reduceIte]; rw [s_ofList]; first | rfl | simp))

/-- `_parse_signature_list`: the count (width from the source), then per signature three reads (widths and order from the source), `hex()`,
    `get_signature` with the words in source order, collected under the key the source uses -/
theorem oe500_parse_signature_list (g) (h : Pel.Gen.oe500_parse_signature_list? = some g) :
    g = fun cd _ver data => oe500Ud cd 1 data := by
  cases h <;> (
  funext cd ver data
  oe_sig cd
  )

/-- the register dump: per chip four reads and `get_chip_desc` (no AssertionError: the numbers are `get_int` results of a byte stream),
    the padded heading, then per register four reads, `get_reg_data`, the cropped / padded name and the data column in groups of four -/
macro "oe_reg" cd:term : tactic => `(tactic| (
  refine (counted_fold suffix_allBytes _ (by assumption) 4 (chipStep $cd) (Keeps.chipStep suffix_allBytes $cd) (fun acc xs => acc ++ xs) _ _
    (fun n i acc => ?_) _).trans ?_
  · simp only [chipStep, bind_assoc, pure_bind]
    refine EqOn.bind_getMem suffix_allBytes 4 fun ec hec => ?_
    refine EqOn.bind_getInt 2 fun chip hchip => ?_
    refine EqOn.bind_getInt 1 fun node hnode => ?_
    refine EqOn.bind_getInt 4 fun nregs _ => ?_
    simp only [chipDescA_hex _ ec node chip hec hnode hchip, rdOfOption_some, pure_bind, bind_pure]
    refine inner_collect (regStep _ _) (Keeps.regStep suffix_allBytes _ _) _ _ _ _ (fun i acc => ?_)
      (fun xs => by simp [chipHead, List.append_assoc])
    simp only [regStep, bind_assoc, pure_bind]
    refine EqOn.bind_getMem suffix_allBytes 3 fun rid hrid => ?_
    refine EqOn.bind_getInt 1 fun inst hinst => ?_
    refine EqOn.bind_getInt 1 fun size _ => ?_
    refine EqOn.bind_getMem suffix_allBytes _ fun buf _ => ?_
    simp only [regDataA_hex _ ec rid inst hec hrid hinst, rdOfOption_some, pure_bind]
    refine EqOn.of_eq ?_
    rw [forPure_chunks (bytesHexL buf) _ (fun _ _ => rfl)]
    unfold regLineOf
    repeat rw [s_ofList]
    first | rfl | simp [IoSem.slice]
  · simp only [foldl_append_flatten, List.nil_append, oe500Ud_out, udRd, Nat.reduceEqDiff, reduceIte]; rw [s_ofList]; first | rfl | simp))

/-- `_parse_register_dump`, for section data that consists of bytes -/
theorem oe500_parse_register_dump (g) (h : Pel.Gen.oe500_parse_register_dump? = some g) :
    ∀ cd ver data, allBytes data = true → g cd ver data = oe500Ud cd 2 data := by
  cases h <;> (
  intro cd ver data hd
  oe_reg cd
  )

/-- straight-line functions: the generated reader is the model's, up to the spelling of text literals (turned into code points by
    `s_ofList`, one literal per rewrite) and `dictOf` -/
macro "oe_same" : tactic => `(tactic| (
  repeat rw [s_ofList]
  first
  | rfl
  | (simp [dictOf, objSet]; done)
  | (simp only [dictOf, List.foldl, objSet]; rfl)))

/-- `_parse_callout_ffdc`: trailing NULs stripped, UTF-8, `json.loads`, under the key the source uses -/
theorem oe500_parse_callout_ffdc (g) (h : Pel.Gen.oe500_parse_callout_ffdc? = some g) :
    g = fun cd _ver data => oe500Ud cd 3 data := by
  cases h <;> (
  funext cd ver data
  simp only [oe500Ud_out, udRd, Nat.reduceEqDiff, reduceIte]
  oe_same
  )

/-- `_parse_hb_scratch_regs`: four reads (widths and order from the source), "0x" + `hex()`, the two pairs as a dictionary
    (Python's rule for a repeated key) -/
theorem oe500_parse_hb_scratch_regs (g) (h : Pel.Gen.oe500_parse_hb_scratch_regs? = some g) :
    g = fun cd _ver data => oe500Ud cd 4 data := by
  cases h <;> (
  funext cd ver data
  simp only [oe500Ud_out, udRd, Nat.reduceEqDiff, reduceIte]
  oe_same
  )

theorem oe500_parse_scratch_reg_sig (g) (h : Pel.Gen.oe500_parse_scratch_reg_sig? = some g) :
    g = fun cd _ver data => oe500Ud cd 5 data := by
  cases h <;> (
  funext cd ver data
  simp only [oe500Ud_out, udRd, Nat.reduceEqDiff, reduceIte]
  oe_same
  )

/-- `_parse_default`: `json.dumps(None)` -/
theorem oe500_parse_default (g) (h : Pel.Gen.oe500_parse_default? = some g) :
    g = fun _cd _ver _data => .json .null := by
  cases h <;> (
  funext cd ver data
  rfl
  )

/-- `parseUDToJson`: the sub-type numbers, which function each selects and the default are the source's; the six functions are
    translated again where they are called (so this tie does not depend on their names) -/
theorem oe500_parseUDToJson (g) (h : Pel.Gen.oe500_parseUDToJson? = some g) :
    ∀ cd sub ver data, (sub = 2 → allBytes data = true) → g cd sub ver data = oe500Ud cd sub data := by
  cases h <;> (
  intro cd sub ver data hd
  simp only [out_ite, out_tail, beq_iff_eq]
  -- one sub-type at a time, in whatever order the source tests them
  by_cases h1 : sub = 1
  · subst h1; simp only [Nat.reduceEqDiff, reduceIte]; oe_sig cd
  by_cases h2 : sub = 2
  · subst h2
    have hd' : allBytes data = true := hd rfl
    simp only [Nat.reduceEqDiff, reduceIte]; oe_reg cd
  by_cases h3 : sub = 3
  · subst h3; simp only [Nat.reduceEqDiff, reduceIte, oe500Ud_out, udRd]; oe_same
  by_cases h4 : sub = 4
  · subst h4; simp only [Nat.reduceEqDiff, reduceIte, oe500Ud_out, udRd]; oe_same
  by_cases h5 : sub = 5
  · subst h5; simp only [Nat.reduceEqDiff, reduceIte, oe500Ud_out, udRd]; oe_same
  simp only [h1, h2, h3, h4, h5, if_false, oe500Ud_out, udRd]
  )

/-- `srcparsers.oe500.parseSRCToJson`: characters 6..7 of the reference code against the literal of the source, the two texts, the
    two keys in source order, `get_signature` on words 6, 7, 8 (AssertionError unless each is eight hex digits) -/
theorem oe500_parseSRCToJson (g) (h : Pel.Gen.oe500_parseSRCToJson? = some g) :
    g = fun cd rc _w2 _w3 _w4 _w5 w6 w7 w8 _w9 =>
      if IoSem.checkHex w6 4 && IoSem.checkHex w7 4 && IoSem.checkHex w8 4 then .json (oe500Src cd rc w6 w7 w8) else .raises := by
  cases h <;> (
  funext cd rc w2 w3 w4 w5 w6 w7 w8 w9
  unfold oe500Src
  repeat rw [s_ofList]
  have hs : List.map Char.toNat ['1', '0'] = [49, 48] := rfl
  simp only [IoSem.getSignatureA, IoSem.slice_eq, beq_iff_eq, bne_iff_ne, ne_eq, hs, Nat.reduceSub, eq_comm (a := ([49, 48] : Text))]
  by_cases hc : (IoSem.checkHex w6 4 && IoSem.checkHex w7 4 && IoSem.checkHex w8 4) = true <;>
  by_cases hr : List.take 2 (List.drop 6 rc) = [49, 48] <;>
  first
    | (simp only [hc, hr, if_true, if_false, not_true_eq_false, not_false_eq_true, rdOfOption_some, pure_bind, Bool.false_eq_true]
       rfl)
    | (simp [hc, hr, rdOfOption, Oe.out]; try rfl)
  )

/-! ### ★ theorems of PelProps/C20.lean transported to the regenerated entry points -/

/-- ★ `C20.siglist_roundtrip` for the regenerated `parseUDToJson`: a signature list of any length is listed completely and in order -/
theorem oe500_siglist_roundtrip (g) (h : Pel.Gen.oe500_parseUDToJson? = some g) (cd : List ChipData) (ver : Nat)
    (sigs : List (Nat × Nat × Nat)) (rest : Bytes)
    (hs : ∀ x ∈ sigs, x.1 < 2^32 ∧ x.2.1 < 2^32 ∧ x.2.2 < 2^32) (hn : sigs.length < 2^32) :
    g cd 1 ver (toBE 4 sigs.length ++ sigs.flatMap (fun x => toBE 4 x.1 ++ toBE 4 x.2.1 ++ toBE 4 x.2.2) ++ rest) =
      .json (.obj [(s "Signature List",
        .arr (sigs.map fun x => getSignature cd (hexFixL 8 x.1) (hexFixL 8 x.2.1) (hexFixL 8 x.2.2)))]) := by
  rw [oe500_parseUDToJson g h cd 1 ver _ (fun e => absurd e (by decide))]
  exact C20.siglist_roundtrip cd sigs rest hs hn

theorem allBytes_regEnc (r : C20.AReg) (h : r.WF) : allBytes r.enc = true := by
  obtain ⟨_, h2, _, h4, h5⟩ := h
  simp only [C20.AReg.enc, allBytes_append, allBytes_toBE, Bool.true_and]
  simp only [allBytes, List.all_cons, List.all_nil, decide_eq_true h2, decide_eq_true h4, Bool.true_and, Bool.and_true, List.all_eq_true,
    decide_eq_true_eq]
  exact h5

theorem allBytes_chipEnc (c : C20.AChip) (h : c.WF) : allBytes c.enc = true := by
  obtain ⟨_, _, h3, _, h5⟩ := h
  simp only [C20.AChip.enc, allBytes_append, allBytes_toBE, Bool.true_and]
  rw [allBytes_flatMap _ _ (fun r hr => allBytes_regEnc r (h5 r hr))]
  simp [allBytes, h3]

/-- ★ `C20.regdump_roundtrip` for the regenerated `parseUDToJson`: a register dump lists every chip and every register in order -/
theorem oe500_regdump_roundtrip (g) (h : Pel.Gen.oe500_parseUDToJson? = some g) (cd : List ChipData) (ver : Nat)
    (chips : List C20.AChip) (rest : Bytes) (hw : ∀ c ∈ chips, c.WF) (hn : chips.length < 2^32) (hr : allBytes rest = true) :
    g cd 2 ver (toBE 4 chips.length ++ chips.flatMap (·.enc) ++ rest) =
      .json (.obj [(s "Register Dump", .arr ((chips.flatMap (C20.chipLines cd)).map .str))]) := by
  rw [oe500_parseUDToJson g h cd 2 ver _ (fun _ => by
    simp only [allBytes_append, allBytes_toBE, hr, allBytes_flatMap _ _ (fun c hc => allBytes_chipEnc c (hw c hc)), Bool.and_self])]
  exact C20.regdump_roundtrip cd chips rest hw hn

/-- ★ `C20.src_words` for the regenerated `parseSRCToJson`, on hex words as `SRC.parse` passes them -/
theorem oe500_src_words (g) (h : Pel.Gen.oe500_parseSRCToJson? = some g) (cd : List ChipData) (rc w2 w3 w4 w5 w6 w7 w8 w9 : Text)
    (h6 : IoSem.checkHex w6 4 = true) (h7 : IoSem.checkHex w7 4 = true) (h8 : IoSem.checkHex w8 4 = true) :
    g cd rc w2 w3 w4 w5 w6 w7 w8 w9 =
      .json (.obj [(s "Primary Attention", .str (if (rc.drop 6).take 2 = s "10" then s "system checkstop" else s "secondary analysis")),
                   (s "Signature Description", getSignature cd w6 w7 w8)]) := by
  rw [oe500_parseSRCToJson g h]
  simp only [h6, h7, h8, Bool.and_self, if_true, C20.src_words]

/-- the hex words of an SRC (`hexFix 8` of a 32-bit word) pass the assertions -/
theorem oe500_src_words_hex (g) (h : Pel.Gen.oe500_parseSRCToJson? = some g) (cd : List ChipData) (rc w2 w3 w4 w5 w9 : Text) (a b c : Nat) :
    g cd rc w2 w3 w4 w5 (hexFix 8 a) (hexFix 8 b) (hexFix 8 c) w9 = .json (oe500Src cd rc (hexFix 8 a) (hexFix 8 b) (hexFix 8 c)) := by
  rw [oe500_parseSRCToJson g h]
  simp only [checkHex_hexFix8, Bool.and_self, if_true]

end Pel.Tie
