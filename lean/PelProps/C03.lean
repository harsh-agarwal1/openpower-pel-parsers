import PelProofs.FramesPel
import PelProofs.Registry
import PelProofs.SrcKeys
import PelGen.Live
import PelProps.Golden
/-
  C03 — SRC sections display the encoded words, flags and every callout faithfully.
  `renderSrc` / `renderCallout` (PelModel/PelSpec.lean) spell out, field by field and by arithmetic on the encoded
  values, what must be shown; the theorems say the decoder shows exactly that for every well-formed SRC.
-/
namespace Pel.C03

theorem pin_header_flags :
    (∀ v ∈ Live.hf_additionalSections, v = 0x01) ∧ (∀ v ∈ Live.hf_hypDumpInit, v = 0x04) ∧
    (∀ v ∈ Live.hf_i5OSServiceEventBit, v = 0x10) ∧ (∀ v ∈ Live.hf_virtualProgressSRC, v = 0x80) := by decide
theorem pin_error_status :
    (∀ v ∈ Live.es_terminateFwErr, v = 0x20000000) ∧ (∀ v ∈ Live.es_deconfigured, v = 0x02000000) ∧
    (∀ v ∈ Live.es_guarded, v = 0x01000000) := by decide
theorem pin_fru_flags :
    (∀ v ∈ Live.fru_pnSupplied, v = 0x08) ∧ (∀ v ∈ Live.fru_ccinSupplied, v = 0x04) ∧
    (∀ v ∈ Live.fru_maintProcSupplied, v = 0x02) ∧ (∀ v ∈ Live.fru_snSupplied, v = 0x01) := by decide
theorem pin_src_types :
    (∀ v ∈ Live.srcType_bmcError, v = s "BD") ∧ (∀ v ∈ Live.srcType_powerError, v = s "11") ∧
    (∀ v ∈ Live.srcType_hostbootError, v = s "BC") := by decide
theorem pin_fru_types : ∀ p ∈ Golden.failingComponentType, ∀ live ∈ Live.failingComponentType, lookupN live p.1 = some p.2 := by decide +kernel
theorem pin_priorities : ∀ p ∈ Golden.calloutPriorityValues, ∀ live ∈ Live.calloutPriorityValues, lookupN live p.1 = some p.2 := by decide +kernel

/-- ★ every well-formed primary or secondary SRC (all 32-bit words, all flag bytes, word counts 0..9, any number of
    callouts with any legal combination of FRU flags, optional PCE and MRU substructures, location codes 0..80)
    is displayed as `renderSrc` prescribes, consuming exactly its own bytes -/
theorem src_roundtrip (T : Tables) (env : SrcEnv) (h : AHdr) (creator : Text) (allow : Bool) (x : ASrc) (hx : x.WF)
    (id len : Nat) (hd : srcDisplayable env creator allow x = true) (rest : Bytes) :
    decodeSRC T env (mkSecHdr id len h) creator allow (x.encBody ++ rest) =
      .ok ((renderSrc T env h creator allow x, stripSp x.ascii), rest) :=
  exact_SRC T env h creator allow x hx id len hd rest

/-- ★ the callout subsection lists exactly the encoded callouts, in order, and Callout Count is their number -/
theorem callouts_listed (T : Tables) (env : SrcEnv) (h : AHdr) (creator : Text) (allow : Bool) (x : ASrc) (cs : ACalloutSec)
    (hc : x.callouts = some cs) :
    ∃ pre post, renderSrc T env h creator allow x = .obj (pre ++ [(s "Callout Section",
      .obj [(s "Callout Count", .num cs.callouts.length),
            (s "Callouts", .arr (cs.callouts.map (renderCallout T env creator allow)))])] ++ post) := by
  unfold renderSrc
  rw [hc]
  exact ⟨_, _, rfl⟩

/-- without the callout flag no callout section is shown -/
theorem no_callout_section (T : Tables) (env : SrcEnv) (h : AHdr) (creator : Text) (allow : Bool) (x : ASrc)
    (hc : x.callouts = none) :
    ∀ l, renderSrc T env h creator allow x = .obj l → ∀ kv ∈ l, kv.1 ≠ s "Callout Section" :=
  fun l hl p hp he => (renderSrc_optional T env h creator allow x l hl p hp).2.1 he hc

/-- ★ hex words: exactly words 2..wordCount are shown, each as the eight hex digits of the encoded word -/
theorem hex_words_shown (T : Tables) (env : SrcEnv) (h : AHdr) (creator : Text) (allow : Bool) (x : ASrc) (i : Nat)
    (hi : 2 ≤ i ∧ i ≤ x.wordCount) :
    ∃ l, renderSrc T env h creator allow x = .obj l ∧
      (s "Hex Word " ++ natDec i, J.str (hexFix 8 (x.words.getD (i - 2) 0))) ∈ l := by
  unfold renderSrc
  refine ⟨_, rfl, ?_⟩
  apply List.mem_append_left
  apply List.mem_append_left
  apply List.mem_append_right
  rw [List.mem_map]
  exact ⟨i, (mem_drop_range i _ 2).2 ⟨hi.1, by omega⟩, rfl⟩

/-- the header / error-status bits by arithmetic on the encoded bytes (what "bit k is on" means) -/
theorem bit_test (n k : Nat) : (n &&& 2 ^ k != 0) = (n / 2 ^ k % 2 == 1) := by
  rw [and_pow_ne_zero]
  rfl

/-- MRU ids are shown as the comma-joined eight-digit ids, in order -/
theorem mru_ids (T : Tables) (env : SrcEnv) (creator : Text) (allow : Bool) (c : ACallout) (m : AMru) (hm : c.mru = some m) :
    ∃ l, renderCallout T env creator allow c = .obj l ∧
      (s "MRU Id", J.str (joinWith [44] (m.items.map fun pi => hexFix 8 pi.2))) ∈ l := by
  unfold renderCallout
  refine ⟨_, rfl, ?_⟩
  rw [hm]
  exact List.mem_append_right _ (List.mem_singleton.2 rfl)

/-! Non-vacuity: a callout section with three callouts (one with PCE, one with MRUs) is well-formed. -/
def fruA : AFru := { flags := 0x28, pn := s "PN12345\x00", ccin := [], sn := [] }
def fruB : AFru := { flags := 0x2D, pn := s "PN00002\x00", ccin := s "CCIN", sn := s "SN1234567890" }
def fruC : AFru := { flags := 0x42, pn := s "BMC0001\x00", ccin := [], sn := [] }
def demoCallouts : ACalloutSec :=
  { subId := 0xC0, subFlags := 0, callouts := [
      { flags := 0x3E, priority := 0x48, loc := s "U78DA.ND1\x00\x00\x00", fru := fruA, pce := none, mru := none },
      { flags := 0x3E, priority := 0x4D, loc := [], fru := fruB,
        pce := some { flags := 0, mtm := s "9105-22A", sn := s "SN0000000001", name := s "pce1" }, mru := none },
      { flags := 0x3E, priority := 0x4C, loc := s "Ufcs", fru := fruC, pce := none,
        mru := some { flagsHi := 0, resv := 0, items := [(0x48, 0x11223344), (0x4C, 0xAABBCCDD)] } }] }
theorem demo_callouts_wf : demoCallouts.WF := by
  simp only [ACalloutSec.WF, ACalloutSec.total, ACallout.WF, ACallout.size, AFru.WF, AFru.size, APce.WF, APce.size,
    AMru.WF, AMru.size, demoCallouts, fruA, fruB, fruC, isAscii, AFru.hasPn, AFru.hasCcin, AFru.hasSn]
  -- every text literal as the list of its characters' codes (cheaper than evaluating `String.toList`), then evaluation
  repeat rw [s_ofList]
  decide

/-! ### the message registry ("Error Details") -/

/-- when an entry matches: it has a reason code that contains the SRC's code as a substring, and its type
    (BD when absent) is the SRC's type -/
theorem registry_match_iff (e : RegEntry) (code ty : Text) :
    e.isMatch code ty = true ↔ ∃ rc, e.reasonCode = some rc ∧ e.type.getD (s "BD") = ty ∧ isInfix code rc = true := by
  unfold RegEntry.isMatch
  cases e.reasonCode with
  | none => simp
  | some rc => simp

/-- what "the entry found" (`regLookup`, used by `registry_message_shown`) means: the first entry in list order that matches -/
theorem registry_lookup_first (pre post : List RegEntry) (e : RegEntry) (code ty : Text)
    (hpre : ∀ p ∈ pre, p.isMatch code ty = false) (he : e.isMatch code ty = true) :
    regLookup (pre ++ e :: post) code ty = some e := by
  rw [regLookup_append_of_no_match pre (e :: post) code ty hpre, regLookup_cons_match e post code ty he]

/-- ★ the placeholders `%1`..`%9` of a message are filled, in order of occurrence, with the arguments: for a message made of
    the segments `segs` with a placeholder between consecutive ones (no segment containing `{`, `}` or `%`) and as many
    arguments as placeholders, the result is the segments interleaved with the arguments -/
theorem registry_message (segs : List Text) (digits : List Nat) (args : List Text)
    (hlen : segs.length = digits.length + 1) (hd : ∀ d ∈ digits, 1 ≤ d ∧ d ≤ 9)
    (hs : ∀ seg ∈ segs, ∀ c ∈ seg, c ≠ 123 ∧ c ≠ 125 ∧ c ≠ 37)
    (ha : args.length = digits.length) :
    fillMsg (joinPlaceholders segs digits) args = some (interleave segs args) :=
  (fillMsg_join segs digits args hlen hd (fun seg h c hc => (hs seg h c hc).2.2)).trans (if_pos (by omega))

example : fillMsg (joinPlaceholders [s "a ", s " b ", s "."] [2, 2]) [s "X", s "Y"] = some (s "a X b Y.") := by decide +kernel
example : joinPlaceholders [s "a ", s " b ", s "."] [2, 2] = s "a %2 b %2." := by decide +kernel

/-- surplus arguments are ignored; with fewer arguments than placeholders the message cannot be built (IndexError) -/
theorem registry_message_extra_args (segs : List Text) (digits : List Nat) (args : List Text)
    (hlen : segs.length = digits.length + 1) (hd : ∀ d ∈ digits, 1 ≤ d ∧ d ≤ 9)
    (hs : ∀ seg ∈ segs, ∀ c ∈ seg, c ≠ 123 ∧ c ≠ 125 ∧ c ≠ 37)
    (ha : digits.length ≤ args.length) :
    fillMsg (joinPlaceholders segs digits) args = some (interleave segs args) :=
  (fillMsg_join segs digits args hlen hd (fun seg h c hc => (hs seg h c hc).2.2)).trans (if_pos ha)
theorem registry_message_too_few_args (segs : List Text) (digits : List Nat) (args : List Text)
    (hlen : segs.length = digits.length + 1) (hd : ∀ d ∈ digits, 1 ≤ d ∧ d ≤ 9)
    (hs : ∀ seg ∈ segs, ∀ c ∈ seg, c ≠ 123 ∧ c ≠ 125 ∧ c ≠ 37)
    (ha : args.length < digits.length) :
    fillMsg (joinPlaceholders segs digits) args = none :=
  (fillMsg_join segs digits args hlen hd (fun seg h c hc => (hs seg h c hc).2.2)).trans (if_neg (by omega))

example : fillMsg (s "a %1 b %2") [s "X", s "Y", s "Z"] = some (s "a X b Y") := by decide +kernel
example : fillMsg (s "a %1 b %2") [s "X"] = none := by decide +kernel

/-- ★ the message shown for an SRC: let `e` be the first registry entry matching the SRC's code and type, with argument
    sources `srcs` each ending in an ASCII digit 2..9, and a message consisting of `segs` with one placeholder per source.
    If "Error Details" is shown at all (`errorDetails … = .some ms`) and no hex-word description is filed under the key
    "Message", then its first member is "Message" and its text is the segments interleaved with `"0x" + lower-case hex`
    of the SRC words the sources name.  (`buildMessage` itself always succeeds with that text.) -/
theorem registry_message_shown (reg : List RegEntry) (ascii : Text) (words : List Nat) (hw : words.length = 8)
    (e : RegEntry) (srcs : List Text) (segs : List Text) (digits : List Nat)
    (hfind : regLookup reg (regCode ascii) (regType ascii) = some e)
    (hsrc : e.argSources = some srcs) (hmsg : e.message = joinPlaceholders segs digits)
    (hlen : segs.length = digits.length + 1) (hd : ∀ d ∈ digits, 1 ≤ d ∧ d ≤ 9)
    (hs : ∀ seg ∈ segs, ∀ c ∈ seg, c ≠ 123 ∧ c ≠ 125 ∧ c ≠ 37)
    (hn : srcs.length = digits.length)
    (hdig : ∀ src ∈ srcs, ∃ c, src.getLast? = some c ∧ 50 ≤ c ∧ c ≤ 57) :
    buildMessage e words = .ok (interleave segs (srcs.map (srcWordHex words))) ∧
    ∀ ms, errorDetails reg ascii words = .some ms → (∀ w ∈ e.words, w.prop ≠ some (s "Message")) →
      ∃ rest, ms = (s "Message", .str (interleave segs (srcs.map (srcWordHex words)))) :: rest := by
  have hb : buildMessage e words = .ok (interleave segs (srcs.map (srcWordHex words))) := by
    unfold buildMessage
    rw [hsrc]
    simp only
    rw [argWords_digits words hw srcs hdig]
    simp only
    rw [hmsg, hasBrace_join segs digits hd (fun seg h c hc => ⟨(hs seg h c hc).1, (hs seg h c hc).2.1⟩)]
    simp only [Bool.false_eq_true, if_false]
    rw [fillMsg_join segs digits _ hlen hd (fun seg h c hc => (hs seg h c hc).2.2), if_pos (by rw [List.length_map]; omega)]
  refine ⟨hb, fun ms hms hprop => ?_⟩
  rw [errorDetails_eq, hfind] at hms
  obtain ⟨msg, rest, hm, rfl⟩ := detailsOf_message e words ms hms hprop
  cases hb.symm.trans hm
  exact ⟨rest, rfl⟩

/-- non-vacuity: an entry with two sources and a hex-word description, found behind a non-matching entry whose reason
    code has the SRC's code as a proper substring of another type -/
def demoReg : List RegEntry := [
  { reasonCode := some (s "0x26001234"), type := some (s "BC"), message := s "other", argSources := none, words := [] },
  { reasonCode := some (s "0x2600"), type := none, message := s "rc %1, then %2", argSources := some [s "SRCWord6", s "SRCWord9"],
    words := [{ num := s "6", desc := some (s "the rc"), prop := some (s "RC") }] },
  { reasonCode := some (s "0x2600"), type := some (s "BD"), message := s "shadowed", argSources := none, words := [] }]
theorem demo_registry_message :
    errorDetails demoReg (s "BD702600") [0, 0, 0, 0, 0xAB, 0, 0, 0x10] =
      .some [(s "Message", .str (s "rc 0xab, then 0x10")), (s "RC", .arr [.num 0xAB, .str (s "the rc")])] := rfl

/-- ★ first match: entries in front of the first matching entry are irrelevant … -/
theorem registry_first_match (pre post : List RegEntry) (e : RegEntry) (ascii : Text) (words : List Nat)
    (hpre : ∀ p ∈ pre, p.isMatch (regCode ascii) (regType ascii) = false) :
    errorDetails (pre ++ e :: post) ascii words = errorDetails (e :: post) ascii words := by
  rw [errorDetails_eq, errorDetails_eq]
  rw [regLookup_append_of_no_match pre (e :: post) _ _ hpre]

/-- ★ … and so is everything behind it: the first matching entry alone decides -/
theorem registry_first_match_only (pre post : List RegEntry) (e : RegEntry) (ascii : Text) (words : List Nat)
    (hpre : ∀ p ∈ pre, p.isMatch (regCode ascii) (regType ascii) = false)
    (he : e.isMatch (regCode ascii) (regType ascii) = true) :
    errorDetails (pre ++ e :: post) ascii words = errorDetails [e] ascii words := by
  rw [registry_first_match pre post e ascii words hpre, errorDetails_eq, errorDetails_eq]
  rw [regLookup_cons_match e post _ _ he, regLookup_cons_match e [] _ _ he]

/-- ★ … and when no entry matches there are no error details -/
theorem registry_no_match (reg : List RegEntry) (ascii : Text) (words : List Nat)
    (h : ∀ p ∈ reg, p.isMatch (regCode ascii) (regType ascii) = false) :
    errorDetails reg ascii words = .none := by
  rw [errorDetails_eq]
  rw [regLookup_none reg _ _ h]

example : errorDetails demoReg (s "BD702600") [0, 0, 0, 0, 0xAB, 0, 0, 0x10] =
    errorDetails (demoReg.drop 1) (s "BD702600") [0, 0, 0, 0, 0xAB, 0, 0, 0x10] := rfl
example : (demoReg.take 1).all (fun p => !p.isMatch (regCode (s "BD702600")) (regType (s "BD702600"))) = true := by decide +kernel
example : errorDetails demoReg (s "BD702601") [0, 0, 0, 0, 0xAB, 0, 0, 0x10] = .none := rfl

theorem hexword_ne_errorDetails (t : Text) : s "Hex Word " ++ t ≠ s "Error Details" :=
  hexword_ne t (by decide)

/-- no error details (no match, an empty message, or an SRC type other than BD / 11 / BC): no "Error Details" member -/
theorem no_error_details (T : Tables) (env : SrcEnv) (h : AHdr) (creator : Text) (allow : Bool) (x : ASrc)
    (hn : errorDetails env.registry x.ascii x.words = .none ∨
          ¬ (x.ascii.take 2 = s "BD" ∨ x.ascii.take 2 = s "11" ∨ x.ascii.take 2 = s "BC")) :
    ∀ l, renderSrc T env h creator allow x = .obj l → ∀ kv ∈ l, kv.1 ≠ s "Error Details" := by
  intro l hl p hp he
  obtain ⟨hty, ms, hms⟩ := (renderSrc_optional T env h creator allow x l hl p hp).1 he
  rcases hn with hn | hn
  · rw [hn] at hms; cases hms
  · exact hn (or_assoc.1 hty)

/-- with an empty registry (the situation of this sandbox) there is never an "Error Details" member and the registry never
    prevents display -/
theorem registry_empty (T : Tables) (env : SrcEnv) (h : AHdr) (creator : Text) (allow : Bool) (x : ASrc)
    (hr : env.registry = []) :
    registryDisplayable env x = true ∧
    ∀ l, renderSrc T env h creator allow x = .obj l → ∀ kv ∈ l, kv.1 ≠ s "Error Details" := by
  have hnone : errorDetails env.registry x.ascii x.words = .none := by rw [hr]; rfl
  refine ⟨?_, no_error_details T env h creator allow x (Or.inl hnone)⟩
  unfold registryDisplayable
  simp only [hnone]
  split <;> rfl

/-- ★ error details that can be built are shown: a member "Error Details" holding exactly the registry's answer -/
theorem error_details_in_render (T : Tables) (env : SrcEnv) (h : AHdr) (creator : Text) (allow : Bool) (x : ASrc)
    (ms : List (Text × J)) (hty : x.ascii.take 2 = s "BD" ∨ x.ascii.take 2 = s "11" ∨ x.ascii.take 2 = s "BC")
    (he : errorDetails env.registry x.ascii x.words = .some ms) :
    ∃ l, renderSrc T env h creator allow x = .obj l ∧ (s "Error Details", J.obj ms) ∈ l := by
  unfold renderSrc
  refine ⟨_, rfl, ?_⟩
  apply List.mem_append_left
  apply List.mem_append_left
  apply List.mem_append_left
  apply List.mem_append_left
  apply List.mem_append_right
  simp only
  rw [if_pos (or_assoc.2 hty), he]
  simp [kv]

/-- non-vacuity: the demo registry's answer appears in the rendering of a BD SRC, right after "Guarded" -/
def demoSrc : ASrc :=
  { version := 2, flagsHi := 0, resv1 := 0, wordCount := 9, resv2 := 0, size := 72,
    words := [0, 0, 0, 0, 0xAB, 0, 0, 0x10], ascii := s "BD702600" ++ List.replicate 24 32, callouts := none }
theorem demo_error_details :
    errorDetails demoReg demoSrc.ascii demoSrc.words =
      .some [(s "Message", .str (s "rc 0xab, then 0x10")), (s "RC", .arr [.num 0xAB, .str (s "the rc")])] ∧
    demoSrc.ascii.take 2 = s "BD" := ⟨rfl, by decide⟩
theorem demo_src_wf : demoSrc.WF := by
  simp only [ASrc.WF, demoSrc, isAscii, Option.mem_def, reduceCtorEq, false_implies, implies_true]
  rw [s_ofList]
  decide

/-- non-vacuity of `registry_message_shown`: its hypotheses hold for the demo entry (two sources, two placeholders) -/
theorem demo_message_hyps :
    buildMessage { reasonCode := some (s "0x2600"), type := none, message := s "rc %1, then %2",
                   argSources := some [s "SRCWord6", s "SRCWord9"],
                   words := [{ num := s "6", desc := some (s "the rc"), prop := some (s "RC") }] }
        [0, 0, 0, 0, 0xAB, 0, 0, 0x10] =
      .ok (interleave [s "rc ", s ", then ", []] ([s "SRCWord6", s "SRCWord9"].map (srcWordHex [0, 0, 0, 0, 0xAB, 0, 0, 0x10]))) :=
  (registry_message_shown demoReg (s "BD702600") [0, 0, 0, 0, 0xAB, 0, 0, 0x10] rfl _ [s "SRCWord6", s "SRCWord9"]
    [s "rc ", s ", then ", []] [1, 2] (by decide) rfl (by decide) (by decide) (by decide) (by decide) (by decide)
    (by
      intro src hsrc
      rcases List.mem_cons.1 hsrc with h | h
      · exact ⟨54, by rw [h]; decide, by decide, by decide⟩
      · rcases List.mem_cons.1 h with h | h
        · exact ⟨57, by rw [h]; decide, by decide, by decide⟩
        · cases h)).1

def demoEnv : SrcEnv := { callout := fun _ => .absent, src := fun _ => .absent, registry := demoReg }
theorem demo_rendered (T : Tables) (h : AHdr) (creator : Text) (allow : Bool) :
    ∃ l, renderSrc T demoEnv h creator allow demoSrc = .obj l ∧
      (s "Error Details", J.obj [(s "Message", .str (s "rc 0xab, then 0x10")), (s "RC", .arr [.num 0xAB, .str (s "the rc")])]) ∈ l :=
  error_details_in_render T demoEnv h creator allow demoSrc _ (Or.inl demo_error_details.2) demo_error_details.1
theorem demo_displayable : srcDisplayable demoEnv (s "O") true demoSrc = true := by decide +kernel

end Pel.C03
