import PelGen.GenHexdump
import PelProofs.TieHexdump
import PelProps.C13
/-
  Source tie for C13 (stream `hexdump`): `hexdump` and `parse` of modules/pel/hexdump.py, regenerated from the source text by
  harness/trans_hexdump.py (PelGen/GenHexdump.lean) as `do` blocks in the `Option` monad (`none` = Python raises / an integer drops
  below zero), are the model's `hexdump` and `parseDump` (PelModel/HexDump.lean) — the functions C13's theorems are about.

  Where the equality needs a hypothesis, it is the domain on which the MODEL claims to follow the code:
  * `hexdump`: the data is a bytes-like object (`∀ x ∈ b, x < 256`: the code formats a cell with `"%02X"`, which would widen for a larger
    number; the model always writes two digits).  The two `assert`s are part of the statement: outside `1 ≤ l, c ≤ 256` the code raises
    (AssertionError in an interpreter started without -O; with -O the asserts are gone and that branch of the statement says nothing
    about the code — inside the range, which is where the model's `hexdump` is specified, -O makes no difference).
  * `parse`: the template is `pairedD` (every second `D` directly follows its partner: the code pairs a low nibble with the character
    just before it, `line[i-1:i+1]`, the model with the previous DATA character; PelModel/HexDump.lean states this, and
    `C13.templates_paired` proves it for the three templates in use).  On such templates the code never raises.
-/
set_option linter.unusedSimpArgs false
namespace Pel.Tie
open Pel.TieHex

/-- closes a pointwise goal about one round of the cell loop of `hexdump`: the chunk gap (`j ≠ 0 ∧ j % c = 0`) and the printable
    range, however the source spells the two tests -/
macro "cell_round" j:ident c:ident x:ident : tactic => `(tactic|
  (by_cases h0 : $j = 0 <;> by_cases hm : $j % $c = 0 <;> by_cases h1 : 32 ≤ $x <;> by_cases h2 : $x < 127 <;>
     simp [h0, hm, h1, h2, zero_eq_iff, spaces, asciiCell, List.append_assoc] <;>
     (try simp_all) <;> (try omega)))

/-- `hexdump(data, bytes_per_line, bytes_per_chunk)` of the source text: the two asserts, then one `dumpLine` per started line -/
theorem hexdump (g : Bytes → Nat → Nat → Option (List Text)) (h : Gen.hexdump? = some g) :
    ∀ (b : Bytes) (l c : Nat), (∀ x ∈ b, x < 256) →
      g b l c = if (1 ≤ l ∧ l ≤ 256) ∧ (1 ≤ c ∧ c ≤ 256) then some (Pel.hexdump l c b) else none := by
  cases h
  all_goals
    intro b l c hb
    by_cases hl : 1 ≤ l ∧ l ≤ 256
    · by_cases hc : 1 ≤ c ∧ c ≤ 256
      · have hl0 : l ≠ 0 := by omega
        have hc0 : c ≠ 0 := by omega
        have hcd : 1 ≤ Pel.ceilDiv l c := by
          unfold Pel.ceilDiv; exact (Nat.le_div_iff_mul_le (by omega)).mpr (by omega)
        have hcpl : 2 ≤ l * 2 + 2 * Pel.ceilDiv l c := by omega
        have hcpl' : 2 ≤ 2 * l + 2 * Pel.ceilDiv l c := by omega
        -- the straight-line part: asserts, `math.ceil`, the width of the hex column, `range`
        simp only [Py.assert, Py.ceilDiv, Py.sub, Py.range3, hl, hc, hl0, hc0, hcd, hcpl, hcpl', and_self, decide_true, Bool.and_self, if_true,
          if_false, Option.bind_eq_bind, Option.bind_some, Option.pure_def, bind, pure, Option.bind_fun_some, ge_iff_le, Bool.and_true,
          Bool.true_and, Nat.sub_zero]
        rw [forIn_lines (l := l) (c := c) (b := b) hl.1 ?_]
        · intro i acc
          have hs : ∀ x ∈ Py.slice b i (i + l), x < 256 := by
            intro x hx; apply hb; unfold Py.slice at hx; exact List.mem_of_mem_take (List.mem_of_mem_drop hx)
          -- the cell loop; both strings start empty, so only what is done with them after the loop (the first goal) tells in which
          -- order the loop state holds them
          first
          | (rw [Py.enumerate, forIn_cells (fun r t => (r, t)) (c := c) ?hf _ 0 [] [] hs]
             · first | done | (simp [dumpLine, charPerLine, spaces, rawFrom]; first | done | omega | (congr 2; omega)))
          | (rw [Py.enumerate, forIn_cells (fun r t => (t, r)) (c := c) ?hf _ 0 [] [] hs]
             · first | done | (simp [dumpLine, charPerLine, spaces, rawFrom]; first | done | omega | (congr 2; omega)))
          case hf =>
            intro j x raw text hx
            have hx' : x < 1114112 := by omega   -- the bound under which `chr` does not raise (0x110000)
            simp only [Py.mod, hc0, Py.chr, hx', fmtHex2_byte x hx, bne_iff_ne, beq_iff_eq, ne_eq, if_false, if_true,
              Option.bind_eq_bind, Option.bind_some, Option.pure_def, bind, pure, Bool.and_eq_true, decide_eq_true_eq]
            cell_round j c x
      · simp [Py.assert, hl, hc]
        try omega
    · simp [Py.assert, hl]
      try omega

/-- the default arguments of `hexdump` in the source text: 16 bytes per line, 4 per chunk -/
theorem hexdumpDefaults (g : Nat × Nat) (h : Gen.hexdumpDefaults? = some g) : g = (16, 4) := by
  cases h <;> rfl

/-- `hexdump(data)` with the defaults of the source text is the model's `hexdump16` -/
theorem hexdump16 (g : Bytes → Nat → Nat → Option (List Text)) (h : Gen.hexdump? = some g)
    (d : Nat × Nat) (hd : Gen.hexdumpDefaults? = some d) (b : Bytes) (hb : ∀ x ∈ b, x < 256) :
    g b d.1 d.2 = some (Pel.hexdump16 b) := by
  rw [hexdumpDefaults d hd, hexdump g h b 16 4 hb]
  simp [Pel.hexdump16]

/-- `parse(lines, line_format)` of the source text: per line, the template walk with `break`/`continue` is the model's `parseGo` -/
theorem parse (g : List Text → Text → Option Bytes) (h : Gen.parse? = some g) :
    ∀ (lines : List Text) (fmt : Text), pairedD fmt = true → g lines fmt = some (parseDump fmt lines) := by
  cases h
  all_goals
    intro lines fmt hp
    simp only [Option.bind_eq_bind, Option.bind_some, Option.pure_def, bind, pure, Option.bind_fun_some, Option.bind_none]
    rw [forIn_flatMap (parseLine fmt) ?_ lines []]
    · simp [parseDump]
    · intro line acc
      simp only [parseLine, rstripNL]
      by_cases hlen : (rstripChar 10 line).length ≤ fmt.length
      · have hgt : ¬ (fmt.length < (rstripChar 10 line).length) := by omega
        have hge : fmt.length ≥ (rstripChar 10 line).length := hlen
        simp only [hlen, hgt, hge, if_true, if_false, decide_true, decide_false, gt_iff_lt, ge_iff_le, Bool.false_eq_true, Bool.not_true,
          Bool.not_false, not_true_eq_false, not_false_eq_true, Option.bind_eq_bind, Option.bind_some, Option.pure_def, bind, pure]
        first
        | rw [forIn_parse (fun d p => (d, p)) ?_ hlen hp acc]
        | rw [forIn_parse (fun d p => (p, d)) ?_ hlen hp acc]
        · simpa using parseGo_append fmt _ none acc []
        · intro i fc ch data prev hfc hch hpi
          have hsub : Py.sub i 1 = if prev = true then some (i - 1) else Py.sub i 1 := by
            split
            · rename_i hp1; have := hpi hp1; simp [Py.sub, this]
            · rfl
          simp only [hfc, hch, Option.bind_some, Option.bind_eq_bind, Option.pure_def, bind, pure]
          -- the compiled character class of the source is the model's `isHexDigit`
          try (
            generalize hcl : Py.inClass _ ch = t
            have ht : t = isHexDigit ch := by
              rw [← hcl]
              simp only [Py.inClass, List.any_cons, List.any_nil, isHexDigit, Bool.or_false]
              rw [Bool.eq_iff_iff]; simp; omega
            subst ht)
          -- tests written `'A' == f` or `c == f` are turned round, towards the model's `f = …`
          simp only [stepSpec, chA, chD, chC, beq_iff_eq, bne_iff_ne, ne_eq, Bool.not_eq_true', ite_not, eq_comm (a := (65 : Nat)),
            eq_comm (a := (68 : Nat)), eq_comm (a := (67 : Nat)), eq_comm (a := ch) (b := fc)]
          -- the model's four kinds of template character; the order in which the source tests them does not matter
          by_cases hA : fc = 65
          · subst hA; cases hx : isHexDigit ch <;> simp_all [Py.sub]
          by_cases hD : fc = 68
          · subst hD; cases hx : isHexDigit ch <;> cases prev <;> simp_all [Py.sub] <;> omega
          by_cases hC : fc = 67
          · subst hC; simp_all [Py.sub]
          by_cases hL : fc = ch <;> simp_all [Py.sub]
      · have hgt : fmt.length < (rstripChar 10 line).length := by omega
        simp [hlen, hgt]

/-- the default template of `parse` in the source text, and the module constant it names -/
theorem parseDefaultFormat (g : Text) (h : Gen.parseDefaultFormat? = some g) : g = fmtDefault := by
  cases h <;> (refine Eq.trans ?_ fmtDefault_lit.symm; decide)

theorem defaultLineFormat (g : Text) (h : Gen.defaultLineFormat? = some g) : g = fmtDefault := by
  cases h <;> (refine Eq.trans ?_ fmtDefault_lit.symm; decide)

/-- C13 ★`parse_hexdump` for the functions of the source text: `parse(hexdump(data))` returns `data`
    (defaults of both functions as written in the source; any byte string shorter than 4 GiB) -/
theorem parse_hexdump (gh : Bytes → Nat → Nat → Option (List Text)) (hh : Gen.hexdump? = some gh)
    (d : Nat × Nat) (hd : Gen.hexdumpDefaults? = some d)
    (gp : List Text → Text → Option Bytes) (hp : Gen.parse? = some gp)
    (f : Text) (hf : Gen.parseDefaultFormat? = some f)
    (b : Bytes) (hb : ∀ x ∈ b, x < 256) (hlen : b.length ≤ 2 ^ 32) :
    (gh b d.1 d.2).bind (fun dump => gp dump f) = some b := by
  rw [hexdump16 gh hh d hd b hb, parseDefaultFormat f hf]
  simp only [Option.bind_some]
  rw [parse gp hp _ _ C13.templates_paired.1]
  exact congrArg some (C13.parse_hexdump b hb hlen)

/-- C13 `line_count` for the `hexdump` of the source text -/
theorem line_count (g : Bytes → Nat → Nat → Option (List Text)) (h : Gen.hexdump? = some g)
    (b : Bytes) (l c : Nat) (hb : ∀ x ∈ b, x < 256) (hl : 1 ≤ l ∧ l ≤ 256) (hc : 1 ≤ c ∧ c ≤ 256) :
    ∃ dump, g b l c = some dump ∧ dump.length = ceilDiv b.length l := by
  refine ⟨Pel.hexdump l c b, ?_, C13.line_count l c b hl.1⟩
  rw [hexdump g h b l c hb]; simp [hl, hc]

end Pel.Tie
