import PelModel.Basic
/-
  A small, total, executable BACKTRACKING regular-expression matcher with the semantics of CPython's `re`
  (module `_sre`) for the constructs that the seven patterns of modules/io_drawer/{ilog,hlog,trace}.py use:

    literal character, character class / negated class, `\s`, `[0-9]`, `[12]`, `.`, concatenation,
    ordered alternation `(?:a|b)`, greedy `*` `+` `?`, capturing groups, `fullmatch`.

  Regexes are values of the AST `Re` (there is no parser for regex syntax).

  Semantics.  `Re.m r inp caps k` tries the ways in which `r` can match a prefix of `inp` IN PRIORITY ORDER
  (left alternative first, one more iteration of a greedy repeat before stopping, the optional item present before
  absent) and hands the rest of the input and the captures to the continuation `k`; the first way for which `k`
  succeeds is the answer.  `fullmatch` uses the continuation "the rest is empty", which is how `_sre` implements
  `fullmatch` (the SUCCESS opcode fails unless the end of the string is reached, which makes the engine backtrack).
  The FIRST successful path is the answer, so the captures are those of that path.

  Termination.  `Re.m` is structurally recursive on the regex.  A repeat `a*` runs the auxiliary `starM` with
  fuel = length of the input that is left when the repeat is entered; an iteration is only continued when it consumed at
  least one character, so the fuel cannot run out: `starM_fuel` (PelProofs/Regex.lean) proves that every fuel
  ≥ the remaining length gives the same answer (`Re.m_star` is the resulting fuel-free unfolding equation).
  The "consumed at least one character" guard is never false for the seven patterns: no repeated item can match
  the empty string.  (CPython has extra rules for repeats of items that can match empty; they are outside the
  modelled subset because no such item can be written down below without being visible in the pattern.)
-/
namespace Pel

/-- what a single pattern character / class accepts (code points) -/
inductive CSet where
  | lit (c : Nat)            -- a literal character; `\{` `\}` `\,` `\=` `\|` are literals too
  | notLit (c : Nat)         -- `[^c]` (matches `\n` as well)
  | oneOf (l : List Nat)     -- `[12]`
  | digit                    -- `[0-9]`: in a `str` pattern this is the code-point range 48..57, ASCII only
  | space                    -- `\s` in a `str` pattern without re.ASCII: `Py_UNICODE_ISSPACE`, the set of `str.isspace()`
  | dot                      -- `.` without re.DOTALL: anything but `\n`
deriving Repr, DecidableEq

def CSet.test : CSet → Nat → Bool
  | .lit c, x => x == c
  | .notLit c, x => x != c
  | .oneOf l, x => l.contains x
  | .digit, x => 48 ≤ x && x ≤ 57
  | .space, x => isPySpace x
  | .dot, x => x != 10

inductive Re where
  | eps
  | chr (p : CSet)
  | seq (a b : Re)
  | alt (a b : Re)           -- `a|b`, `a` is tried first
  | star (a : Re)            -- greedy `a*`
  | opt (a : Re)             -- greedy `a?`
  | grp (i : Nat) (a : Re)   -- capturing group number `i`
deriving Repr, DecidableEq

/-- captures, most recently closed group first (a group that is closed twice shadows its older value, like `re`) -/
abbrev Caps := List (Nat × Text)
abbrev Kont := Text → Caps → Option Caps

/-- greedy repeat of `step`: one more iteration first (only continued if it consumed something), then stop -/
def starM (step : Text → Caps → Kont → Option Caps) : Nat → Text → Caps → Kont → Option Caps
  | 0, inp, c, k => k inp c
  | n+1, inp, c, k =>
    match step inp c (fun r c' => if r.length < inp.length then starM step n r c' k else none) with
    | some x => some x
    | none => k inp c

def Re.m : Re → Text → Caps → Kont → Option Caps
  | .eps, inp, c, k => k inp c
  | .chr p, inp, c, k =>
    match inp with
    | [] => none
    | x :: r => if p.test x then k r c else none
  | .seq a b, inp, c, k => a.m inp c (fun r c' => b.m r c' k)
  | .alt a b, inp, c, k =>
    match a.m inp c k with
    | some x => some x
    | none => b.m inp c k
  | .opt a, inp, c, k =>
    match a.m inp c k with
    | some x => some x
    | none => k inp c
  | .star a, inp, c, k => starM a.m inp.length inp c k
  | .grp i a, inp, c, k => a.m inp c (fun r c' => k r ((i, inp.take (inp.length - r.length)) :: c'))

/-- continuation of `fullmatch`: succeed only at the end of the input -/
def kEnd : Kont := fun r c => if r.isEmpty then some c else none

/-- `pattern.fullmatch(inp)`: the captures of the first successful path, `none` = no match -/
def Re.fullmatch (r : Re) (inp : Text) : Option Caps := r.m inp [] kEnd

/-- `match.group(i)` -/
def capGet (c : Caps) (i : Nat) : Option Text := (c.find? (fun p => p.1 == i)).map (·.2)

/-! ### building blocks -/
def Re.cat : List Re → Re
  | [] => .eps
  | a :: rest => .seq a (Re.cat rest)
def Re.plus (a : Re) : Re := .seq a (.star a)
def Re.c (ch : Char) : Re := .chr (.lit ch.toNat)
/-- the characters of a literal string, one `Re` each (the patterns below are FLAT concatenations) -/
def Re.lits (x : String) : List Re := x.toList.map Re.c
/-- `\s*` -/
def Re.ws : Re := .star (.chr .space)
/-- `\s+` -/
def Re.ws1 : Re := Re.plus (.chr .space)

/-! ### the seven patterns (the quoted text is `X.pattern` as printed by Python for the compiled object; adjacent
    string literals are concatenated by Python, and in the non-raw second literals `\=`, `\s`, `\{`, `\,`, `\}` are
    unknown string escapes that Python keeps as backslash + character, so they reach `re` as regex escapes) -/

/-- ilog.py `TBL_START_RE`:
    `(\s*static\s+)?\s*struct\s+pte_entry_struct\s+static_pte_entry_table.*\=\s*\{?\s*` -/
def tblStartRe : Re := Re.cat (
  [.opt (.grp 1 (Re.cat ([Re.ws] ++ Re.lits "static" ++ [Re.ws1]))), Re.ws] ++ Re.lits "struct" ++ [Re.ws1] ++
  Re.lits "pte_entry_struct" ++ [Re.ws1] ++ Re.lits "static_pte_entry_table" ++
  [.star (.chr .dot), Re.c '=', Re.ws, .opt (Re.c '{'), Re.ws])

/-- ilog.py `TBL_ENTRY_RE`:
    `\s*\{\s*"([^"]+)"\s*\,\s*"((?:[^"]|\\")*)"\s*\,\s*\{([^}]*)\}\s*\,\s*"([^"]*)"\s*\,\s*([0-9]+)\s*\}\s*\,\s*` -/
def tblEntryRe : Re := Re.cat [
  Re.ws, Re.c '{', Re.ws, Re.c '"', .grp 1 (Re.plus (.chr (.notLit 34))), Re.c '"', Re.ws, Re.c ',', Re.ws,
  Re.c '"', .grp 2 (.star (.alt (.chr (.notLit 34)) (.seq (Re.c '\\') (Re.c '"')))), Re.c '"', Re.ws, Re.c ',', Re.ws,
  Re.c '{', .grp 3 (.star (.chr (.notLit 125))), Re.c '}', Re.ws, Re.c ',', Re.ws,
  Re.c '"', .grp 4 (.star (.chr (.notLit 34))), Re.c '"', Re.ws, Re.c ',', Re.ws,
  .grp 5 (Re.plus (.chr .digit)), Re.ws, Re.c '}', Re.ws, Re.c ',', Re.ws]

/-- ilog.py `TBL_END_RE`:  `\s*\{\s*""\s*\,\s*"The End".*\s*` -/
def tblEndRe : Re := Re.cat (
  [Re.ws, Re.c '{', Re.ws, Re.c '"', Re.c '"', Re.ws, Re.c ',', Re.ws] ++ Re.lits "\"The End\"" ++ [.star (.chr .dot), Re.ws])

/-- hlog.py `HLOG_START_RE`:
    `(\s*static\s+)?\s*struct\s+mex_hlog_field\s+mex_hlog_fields.*\=\s*\{?\s*` -/
def hlogStartRe : Re := Re.cat (
  [.opt (.grp 1 (Re.cat ([Re.ws] ++ Re.lits "static" ++ [Re.ws1]))), Re.ws] ++ Re.lits "struct" ++ [Re.ws1] ++
  Re.lits "mex_hlog_field" ++ [Re.ws1] ++ Re.lits "mex_hlog_fields" ++
  [.star (.chr .dot), Re.c '=', Re.ws, .opt (Re.c '{'), Re.ws])

/-- hlog.py `HLOG_FIELD_RE`:  `\s*\{\s*([12])\s*\,\s*"([^"]+)"\s*\}\s*\,?\s*` -/
def hlogFieldRe : Re := Re.cat [
  Re.ws, Re.c '{', Re.ws, .grp 1 (.chr (.oneOf [49, 50])), Re.ws, Re.c ',', Re.ws,
  Re.c '"', .grp 2 (Re.plus (.chr (.notLit 34))), Re.c '"', Re.ws, Re.c '}', Re.ws, .opt (Re.c ','), Re.ws]

/-- hlog.py `HLOG_END_RE`:  `\s*\}\s*;\s*` -/
def hlogEndRe : Re := Re.cat [Re.ws, Re.c '}', Re.ws, Re.c ';', Re.ws]

/-- trace.py `TraceStringFile.LINE_RE`:  `\s*([0-9]+)\s*\|\|(.*)\|\|(.*)\n?` -/
def traceLineRe : Re := Re.cat [
  Re.ws, .grp 1 (Re.plus (.chr .digit)), Re.ws, Re.c '|', Re.c '|', .grp 2 (.star (.chr .dot)),
  Re.c '|', Re.c '|', .grp 3 (.star (.chr .dot)), .opt (.chr (.lit 10))]

end Pel
