import PelModel.HexDump
import PelModel.PyFmt
import PelModel.Ilog
/-
  Model of modules/io_drawer/trace.py: buffer header, entry reader, entry loop, trace-string
  choice, formatting.  The string file is abstract: a list of (hash, format, location).
-/
namespace Pel

structure TraceString where
  hash : Nat
  fmt : Text
  location : Text
deriving Repr, DecidableEq

structure TraceHeader where
  ver : Nat
  comp : Bytes       -- the 12 raw bytes
  size : Nat
  timesWrap : Nat
  nextFree : Nat
deriving Repr, DecidableEq

structure TraceEntry where
  tbh : Nat
  tbl : Nat
  length : Nat
  tag : Nat
  hash : Nat
  line : Nat
  data : Bytes
deriving Repr, DecidableEq

def typeFieldBin : Nat := 0x4644
def maxDataLen : Nat := 1024
def maxArgs : Nat := 5
def traceHdrSize : Nat := 32
def traceFixedSize : Nat := 16

/-- `TraceBufferHeader.read` (needs 32 bytes) -/
def readTraceHeader (b : Bytes) : Option TraceHeader :=
  if b.length < traceHdrSize then none else
  some { ver := b.getD 0 0, comp := (b.drop 4).take 12, size := fromBE ((b.drop 20).take 4),
         timesWrap := fromBE ((b.drop 24).take 4), nextFree := fromBE ((b.drop 28).take 4) }

/-- `str(comp, 'ascii', 'ignore').rstrip('\0').rstrip(' ')` -/
def compName (c : Bytes) : Text := rstripChar 32 (rstripChar 0 (c.filter (· < 128)))

def padOf (len : Nat) : Nat := if len % 4 = 0 then 0 else 4 - len % 4

/-- `TraceEntry.read` on the remaining bytes: the entry and the number of bytes consumed -/
def readTraceEntry (r : Bytes) : Option (TraceEntry × Nat) :=
  if r.length < traceFixedSize then none else
  let len := fromBE ((r.drop 4).take 2)
  if len > maxDataLen then none else
  if r.length < 16 + len then none else
  let pad := padOf len
  if r.length < 16 + len + pad then none else
  if r.length < 16 + len + pad + 4 then none else
  let total := 16 + len + pad + 4
  if fromBE ((r.drop (16 + len + pad)).take 4) ≠ total then none else
  some ({ tbh := fromBE (r.take 2), tbl := fromBE ((r.drop 2).take 2), length := len,
          tag := fromBE ((r.drop 6).take 2), hash := fromBE ((r.drop 8).take 4),
          line := fromBE ((r.drop 12).take 4), data := (r.drop 16).take len }, total)

theorem readTraceEntry_consumed (r : Bytes) (e : TraceEntry) (n : Nat) (h : readTraceEntry r = some (e, n)) :
    20 ≤ n ∧ n ≤ r.length := by
  simp only [readTraceEntry, Option.ite_none_left_eq_some, Option.some.injEq, Prod.mk.injEq] at h
  omega

/-- `while stream.index < header.size: read an entry or break`; `idx` = absolute stream index -/
def traceLoop (size : Nat) (idx : Nat) (r : Bytes) : List TraceEntry :=
  if idx < size then
    match h : readTraceEntry r with
    | some (e, n) => e :: traceLoop size (idx + n) (r.drop n)
    | none => []
  else []
termination_by r.length
decreasing_by
  have := readTraceEntry_consumed r e n h
  simp only [List.length_drop]; omega

def isBinaryTrace (e : TraceEntry) : Bool := e.tag == typeFieldBin

/-- `get_args`: up to five big-endian words -/
def wordsOf : Nat → Bytes → List Nat
  | 0, _ => []
  | k+1, d => if 4 ≤ d.length then fromBE (d.take 4) :: wordsOf k (d.drop 4) else []

def traceArgs (e : TraceEntry) : List Nat := if isBinaryTrace e then [] else wordsOf maxArgs e.data

def isPartialMatch (t : TraceString) (h : Nat) : Bool := t.hash != h && t.hash % 100000 == h % 100000

/-- `get_trace_string`: first exact match, else the last partial match -/
def getTraceStringGo : List TraceString → Nat → Option TraceString → Option TraceString
  | [], _, partial_ => partial_
  | t :: ts, h, partial_ =>
    if t.hash == h then some t
    else if isPartialMatch t h then getTraceStringGo ts h (some t)
    else getTraceStringGo ts h partial_

def getTraceString (ss : List TraceString) (h : Nat) : Option TraceString := getTraceStringGo ss h none

def traceIndent : Text := spaces 20

/-- `_format_trace_entry`; `none` = format outside the modelled `%` subset -/
def formatTraceEntry (ss : List TraceString) (e : TraceEntry) : Option (List Text) :=
  let ts := getTraceString ss e.hash
  let msgp : Option (Text × Bool) := match ts with
    | some t => (pyFmtOrRaw t.fmt (traceArgs e)).map (fun m => (m, isPartialMatch t e.hash))
    | none => some (s "No trace string found with hash value " ++ natDec e.hash, false)
  msgp.map fun (msg, part) =>
    [formatTimestamp e.tbh ++ [32] ++ fmtHex 4 e.tbl ++ [32] ++ fmtDecSp 5 e.line ++ [32] ++ msg] ++
    (match ts with
      | some t => if part then [traceIndent ++ s "Warning: Partial match with trace string from " ++ t.location] else []
      | none => []) ++
    (if isBinaryTrace e || ts.isNone || part then (hexdump16 e.data).map (traceIndent ++ ·) else [])

def traceHeading : List Text := [s "HH:MM:SS Seq  Line  Entry Data", s "-------- ---- ----- ----------"]

/-- `parse_trace_data` -/
def parseTrace (ss : List TraceString) (b : Bytes) : Option (List Text) :=
  match readTraceHeader b with
  | none => some ([s "Unable to parse trace data."] ++ hexdump16 b)
  | some h =>
    let entries := traceLoop h.size traceHdrSize (b.drop traceHdrSize)
    (optAll (entries.map (formatTraceEntry ss))).map fun ls =>
      [s "Component: " ++ compName h.comp, s "Version: " ++ natDec h.ver, s "Size: " ++ natDec h.size,
       s "Times Wrapped: " ++ natDec h.timesWrap, []] ++ traceHeading ++ ls.flatten

/-! ### declarative reading (C15) -/

structure TraceHeaderRaw where
  ver : Nat
  hdrLen : Nat
  timeFlg : Nat
  endianFlg : Nat
  comp : Bytes        -- 12 bytes
  reserved : Bytes    -- 4 bytes
  size : Nat
  timesWrap : Nat
  nextFree : Nat
deriving Repr, DecidableEq

def TraceHeaderRaw.WF (h : TraceHeaderRaw) : Prop :=
  h.ver < 256 ∧ h.hdrLen < 256 ∧ h.timeFlg < 256 ∧ h.endianFlg < 256 ∧ h.comp.length = 12 ∧
  (∀ x ∈ h.comp, x < 256) ∧ h.reserved.length = 4 ∧ h.size < 2^32 ∧ h.timesWrap < 2^32 ∧ h.nextFree < 2^32

def TraceHeaderRaw.enc (h : TraceHeaderRaw) : Bytes :=
  [h.ver, h.hdrLen, h.timeFlg, h.endianFlg] ++ h.comp ++ h.reserved ++ toBE 4 h.size ++ toBE 4 h.timesWrap ++
    toBE 4 h.nextFree

def TraceEntry.WF (e : TraceEntry) : Prop :=
  e.tbh < 2^16 ∧ e.tbl < 2^16 ∧ e.tag < 2^16 ∧ e.hash < 2^32 ∧ e.line < 2^32 ∧
  e.length = e.data.length ∧ e.length ≤ 1024 ∧ (∀ x ∈ e.data, x < 256)

def TraceEntry.size (e : TraceEntry) : Nat := 16 + e.length + padOf e.length + 4

/-- encoding of a well-formed entry (pad bytes are free: `pad` supplies them) -/
def TraceEntry.enc (e : TraceEntry) (pad : Bytes) : Bytes :=
  toBE 2 e.tbh ++ toBE 2 e.tbl ++ toBE 2 e.length ++ toBE 2 e.tag ++ toBE 4 e.hash ++ toBE 4 e.line ++
    e.data ++ pad.take (padOf e.length) ++ List.replicate (padOf e.length - pad.length) 0 ++ toBE 4 e.size

/-- the entries shown: those that start before the declared buffer size -/
def specShown (size : Nat) : Nat → List TraceEntry → List TraceEntry
  | _, [] => []
  | idx, e :: es => if idx < size then e :: specShown size (idx + e.size) es else []

/-- the string for a hash: the first with the same hash, else the last whose hash agrees modulo 100000 -/
def specChoice (ss : List TraceString) (h : Nat) : Option TraceString :=
  match ss.find? (fun t => t.hash == h) with
  | some t => some t
  | none => (ss.filter (fun t => t.hash % 100000 == h % 100000)).getLast?

def specEntryLines (ss : List TraceString) (e : TraceEntry) : Option (List Text) :=
  let head := specTimestamp e.tbh ++ [32] ++ hexFix 4 e.tbl ++ [32] ++ fmtDecSp 5 e.line ++ [32]
  let dump := (hexdump16 e.data).map (traceIndent ++ ·)
  match specChoice ss e.hash with
  | none => some ([head ++ s "No trace string found with hash value " ++ natDec e.hash] ++ dump)
  | some t =>
    let args := if e.tag = 0x4644 then [] else wordsOf 5 e.data
    (pyFmtOrRaw t.fmt args).map fun m =>
      if t.hash = e.hash then [head ++ m] ++ (if e.tag = 0x4644 then dump else [])
      else [head ++ m, traceIndent ++ s "Warning: Partial match with trace string from " ++ t.location] ++ dump

def specTrace (ss : List TraceString) (h : TraceHeaderRaw) (es : List TraceEntry) : Option (List Text) :=
  (optAll ((specShown h.size 32 es).map (specEntryLines ss))).map fun ls =>
    [s "Component: " ++ compName h.comp, s "Version: " ++ natDec h.ver, s "Size: " ++ natDec h.size,
     s "Times Wrapped: " ++ natDec h.timesWrap, []] ++ traceHeading ++ ls.flatten

end Pel
